/-
C07 — Allocator-aware container rules: propagation traits decide get_allocator ().

`allocAfter*` is the L1 rule read off the property: copy assignment / move assignment replace the allocator exactly when
POCCA / POCMA is true, swap exchanges the two exactly when POCS is true, otherwise the allocator is untouched; copy
construction takes the supplied allocator (select_on_container_copy_construction of the source's, computed by the caller
of `ctorCopy`), move construction the source's original one, allocator-extended construction the supplied one.
`maybeCopy / maybeMove / maybeSwap` are regenerated from the header's maybe_copy / maybe_move / maybe_swap overload sets.
Theorems: for EVERY world, every trait combination (the eight POCCA/POCMA/POCS combinations, always-equal or not, with or
without is_always_equal in the library), equal or unequal allocators, any capacities and fault list — on normal return
the allocator fields are as the rule says and no other container's allocator changed; after a throw no allocator changed
at all.  (That the elements end up as specified is C01; that later storage traffic uses the current allocator is the
`heap` clause of `VecOK`: the buffer is owned by an allocator equal to the header's.)
-/
import SvModel.Proofs.AllocKept
import SvModel.Proofs.Kernel
import SvModel.Proofs.Examples

namespace SvModel.C07
open SvModel Gen
variable {α : Type}

/-- nothing is counted: the structural pass of Proofs/Effect.lean read for its allocator clause only -/
private theorem K : Counts (fun _ => false) 0 := Counts.nothing
private theorem kept {β : Type} {m : M α β} (h : Adds (fun _ => false) 0 m) : AllocKept m := h.allocKept

/-- the allocator each container owns after copy assignment, move assignment and swap: the other's when the
    corresponding propagation trait is set, its own otherwise -/
def allocAfterCopyAssign (cfg : Cfg) (mine other : Nat) : Nat := if cfg.pocca then other else mine
def allocAfterMoveAssign (cfg : Cfg) (mine other : Nat) : Nat := if cfg.pocma then other else mine
def allocAfterSwap (cfg : Cfg) (mine other : Nat) : Nat × Nat := if cfg.pocs then (other, mine) else (mine, other)

theorem maybeCopy_rule (cfg : Cfg) (a b : Nat) : maybeCopy cfg.policy a b = allocAfterCopyAssign cfg a b := rfl
theorem maybeMove_rule (cfg : Cfg) (a b : Nat) : maybeMove cfg.policy a b = allocAfterMoveAssign cfg a b := rfl
theorem maybeSwap_rule (cfg : Cfg) (a b : Nat) : maybeSwap cfg.policy a b = allocAfterSwap cfg a b := rfl

/-- `m` ends by giving container `c` the allocator `a`, touching no other allocator; a throw changes no allocator -/
def AllocSets {β : Type} (c a : Nat) (m : M α β) : Prop :=
  ∀ w, (m w).sat (fun _ w' => (w'.hdr c).alloc = a ∧ ∀ d, d ≠ c → (w'.hdr d).alloc = (w.hdr d).alloc)
                 (fun _ w' => ∀ d, (w'.hdr d).alloc = (w.hdr d).alloc)

theorem AllocSets.setAlloc (c a : Nat) : AllocSets (α := α) c a (setAlloc c a) := by
  intro w
  show ((upd w.hdr c { w.hdr c with alloc := a }) c).alloc = a ∧ _
  refine ⟨by simp, fun d hd => ?_⟩
  show ((upd w.hdr c { w.hdr c with alloc := a }) d).alloc = _
  rw [upd_other _ _ _ _ hd]

theorem AllocSets.bind {β γ : Type} {c a : Nat} {m : M α β} {f : β → M α γ} (h1 : AllocKept m) (h2 : ∀ b, AllocSets c a (f b)) :
    AllocSets c a (m >>= f) := by
  intro w
  have hk := h1 w
  rw [bind_run]
  cases hr : m w with
  | thrown e w1 => rw [hr] at hk; exact fun d => hk d
  | ok b w1 =>
    rw [hr] at hk
    simp only [Res.world] at hk
    simp only []
    refine Res.sat_mono (h2 b w1) ?_ ?_
    · intro _ w' ⟨ha, ho⟩; exact ⟨ha, fun d hd => by rw [ho d hd, hk d]⟩
    · intro _ w' h d; rw [h d, hk d]

theorem AllocSets.ite {β : Type} {c a : Nat} {p : Prop} [Decidable p] {m n : M α β} (h1 : AllocSets c a m) (h2 : AllocSets c a n) :
    AllocSets c a (if p then m else n) := by
  split <;> assumption

theorem AllocSets.kept_then {β : Type} {c a : Nat} {m : M α β} (h : AllocKept m) : AllocSets c a (m >>= fun _ => SvModel.setAlloc c a) :=
  AllocSets.bind h (fun _ => AllocSets.setAlloc c a)

/-- copy_assign_default: every branch ends in maybe_copy -/
theorem copyAssignDefault_sets (cfg : Cfg) (c o : Nat) (w : World α) :
    (copyAssignDefault cfg c o w).sat
      (fun _ w' => (w'.hdr c).alloc = allocAfterCopyAssign cfg (w.hdr c).alloc (w.hdr o).alloc ∧
                   ∀ d, d ≠ c → (w'.hdr d).alloc = (w.hdr d).alloc)
      (fun _ w' => ∀ d, (w'.hdr d).alloc = (w.hdr d).alloc) := by
  unfold copyAssignDefault
  rw [bind_run, getV_run]; simp only []
  rw [bind_run, getV_run]; simp only []
  refine AllocSets.kept_then (kept (Adds.ite ?_ ?_)) w
  · exact K.buildThen _ _ _ _ _ (fun _ => K.uninitGen _ _ _ _ _) (fun _ => K.resetData _ _ _ _ _)
  · exact Adds.bind0 (K.copyAssignInPlace _ _ _ _ _) (fun _ => Adds.setSize _ _)

/-- copy assignment (operator= / assign (const small_vector&), any two inline capacities) -/
theorem copy_assign_alloc_rule (cfg : Cfg) (c o : Nat) (w : World α) :
    (copyAssign cfg c o w).sat
      (fun _ w' => (w'.hdr c).alloc = allocAfterCopyAssign cfg (w.hdr c).alloc (w.hdr o).alloc ∧
                   ∀ d, d ≠ c → (w'.hdr d).alloc = (w.hdr d).alloc)
      (fun _ w' => ∀ d, (w'.hdr d).alloc = (w.hdr d).alloc) := by
  unfold copyAssign
  by_cases hp : copyAssignPropagating cfg.policy = true
  · simp only [hp, Bool.not_true, Bool.false_eq_true, if_false]
    rw [bind_run, getV_run]; simp only []
    rw [bind_run, getV_run]; simp only []
    by_cases h0 : guard_copyAssign0_0 (genv2 cfg (w.hdr c) (w.hdr o)) = true
    · rw [if_pos h0]; exact copyAssignDefault_sets cfg c o w
    · rw [if_neg h0]
      refine AllocSets.ite ?_ ?_ w
      · exact AllocSets.bind (K.allocate _ _ _).allocKept (fun nb => AllocSets.bind
          (Adds.tryCatchL (K.uninitGen _ _ _ _ _) (fun ex => Adds.bind0 (K.deallocate _ _ _) (fun _ => Adds.throwE ex))).allocKept
          (fun _ => AllocSets.bind (K.resetData _ _ _ _ _).allocKept (fun _ => AllocSets.setAlloc _ _)))
      · exact AllocSets.bind (Adds.ite (K.backToInline _ _ _ _ _ _ _ _ _ (K.uninitGen _ _ _ _ _)) (K.copyAssignInPlace _ _ _ _ _)).allocKept
          (fun _ => AllocSets.bind (AllocKept.setSize _ _) (fun _ => AllocSets.setAlloc _ _))
  · have hp' : copyAssignPropagating cfg.policy = false := by simpa using hp
    simp only [hp', Bool.not_false, if_true]
    exact copyAssignDefault_sets cfg c o w

/-- move_assign_default / move_assign_unequal_no_propagate: every branch ends in maybe_move -/
theorem moveAssignDefault_sets (cfg : Cfg) (c o : Nat) (w : World α) :
    (moveAssignDefault cfg c o w).sat
      (fun _ w' => (w'.hdr c).alloc = allocAfterMoveAssign cfg (w.hdr c).alloc (w.hdr o).alloc ∧
                   ∀ d, d ≠ c → (w'.hdr d).alloc = (w.hdr d).alloc)
      (fun _ w' => ∀ d, (w'.hdr d).alloc = (w.hdr d).alloc) := by
  unfold moveAssignDefault
  rw [bind_run, getV_run]; simp only []
  rw [bind_run, getV_run]; simp only []
  refine AllocSets.kept_then (kept ?_) w
  refine Adds.ite (K.moveAllocationPointer _ _ _) (Adds.ite ?_ ?_)
  · exact Adds.ite (K.moveAllocationPointer _ _ _) (Adds.bind0
      (Adds.ite (K.backToInline _ _ _ _ _ _ _ _ _ (K.uninitializedMove _ _ _ _ _ _ _)) (K.moveAssignInPlace _ _ _ _ _)) (fun _ => Adds.setSize _ _))
  · refine Adds.ite (K.moveAllocationPointer _ _ _) (Adds.ite ?_ ?_)
    · exact K.buildThen _ _ _ _ _ (fun _ => K.uninitializedMove _ _ _ _ _ _ _) (fun _ => K.resetData _ _ _ _ _)
    · exact Adds.bind0 (K.moveAssignInPlace _ _ _ _ _) (fun _ => Adds.setSize _ _)

theorem moveAssignUnequal_sets (cfg : Cfg) (c o : Nat) (w : World α) :
    (moveAssignUnequalNoPropagate cfg c o w).sat
      (fun _ w' => (w'.hdr c).alloc = allocAfterMoveAssign cfg (w.hdr c).alloc (w.hdr o).alloc ∧
                   ∀ d, d ≠ c → (w'.hdr d).alloc = (w.hdr d).alloc)
      (fun _ w' => ∀ d, (w'.hdr d).alloc = (w.hdr d).alloc) := by
  unfold moveAssignUnequalNoPropagate
  rw [bind_run, getV_run]; simp only []
  rw [bind_run, getV_run]; simp only []
  refine AllocSets.kept_then (kept (Adds.ite ?_ ?_)) w
  · exact K.buildThen _ _ _ _ _ (fun _ => K.uninitializedMove _ _ _ _ _ _ _) (fun _ => K.resetData _ _ _ _ _)
  · exact Adds.bind0 (K.moveAssignInPlace _ _ _ _ _) (fun _ => Adds.setSize _ _)

/-- move assignment (operator= / assign (small_vector&&), any two inline capacities) -/
theorem move_assign_alloc_rule (cfg : Cfg) (c o : Nat) (w : World α) :
    (moveAssign cfg c o w).sat
      (fun _ w' => (w'.hdr c).alloc = allocAfterMoveAssign cfg (w.hdr c).alloc (w.hdr o).alloc ∧
                   ∀ d, d ≠ c → (w'.hdr d).alloc = (w.hdr d).alloc)
      (fun _ w' => ∀ d, (w'.hdr d).alloc = (w.hdr d).alloc) := by
  unfold moveAssign
  split
  · exact moveAssignDefault_sets cfg c o w
  · rw [bind_run, getV_run]; simp only []
    rw [bind_run, getV_run]; simp only []
    split
    · exact moveAssignDefault_sets cfg c o w
    · exact moveAssignUnequal_sets cfg c o w

/-- the allocators of `c` and `o` after swap are as the rule says; nobody else's changed -/
def SwapPost (cfg : Cfg) (c o : Nat) (w w' : World α) : Prop :=
  (w'.hdr c).alloc = (allocAfterSwap cfg (w.hdr c).alloc (w.hdr o).alloc).1 ∧
  (w'.hdr o).alloc = (allocAfterSwap cfg (w.hdr c).alloc (w.hdr o).alloc).2 ∧
  ∀ d, d ≠ c → d ≠ o → (w'.hdr d).alloc = (w.hdr d).alloc

theorem SwapPost.symm {cfg : Cfg} {c o : Nat} {w w' : World α} (h : SwapPost cfg o c w w') : SwapPost cfg c o w w' := by
  obtain ⟨h1, h2, h3⟩ := h
  refine ⟨?_, ?_, fun d hc ho => h3 d ho hc⟩
  · rw [h2]; unfold allocAfterSwap; cases cfg.pocs <;> simp
  · rw [h1]; unfold allocAfterSwap; cases cfg.pocs <;> simp

theorem maybeSwapAlloc_post (cfg : Cfg) (c o : Nat) (hne : c ≠ o) (w : World α) :
    (maybeSwapAlloc cfg c o w).sat (fun _ w' => SwapPost cfg c o w w') (fun _ _ => False) := by
  unfold maybeSwapAlloc
  rw [bind_run, getV_run]; simp only []
  rw [bind_run, getV_run]; simp only []
  rw [bind_run]
  show (SvModel.setAlloc o _ _).sat _ _
  show SwapPost cfg c o w _
  refine ⟨?_, ?_, fun d hc ho => ?_⟩
  · show ((upd (upd w.hdr c _) o _) c).alloc = _
    rw [upd_other _ _ _ _ hne]; simp [maybeSwap_rule]
  · show ((upd (upd w.hdr c _) o _) o).alloc = _
    simp [maybeSwap_rule]
  · show ((upd (upd w.hdr c _) o _) d).alloc = _
    rw [upd_other _ _ _ _ ho, upd_other _ _ _ _ hc]

/-- `m` ends by exchanging (or not) the allocators of `c` and `o` as the rule says; a throw changes no allocator -/
def AllocSwaps {β : Type} (cfg : Cfg) (c o : Nat) (m : M α β) : Prop :=
  ∀ w, (m w).sat (fun _ w' => SwapPost cfg c o w w') (fun _ w' => ∀ d, (w'.hdr d).alloc = (w.hdr d).alloc)

theorem AllocSwaps.kept_then {β : Type} {cfg : Cfg} {c o : Nat} {m : M α β} (h : AllocKept m) (hne : c ≠ o) :
    AllocSwaps cfg c o (m >>= fun _ => maybeSwapAlloc cfg c o) := by
  intro w
  have hk := h w
  rw [bind_run]
  cases hr : m w with
  | thrown e w1 => rw [hr] at hk; exact fun d => hk d
  | ok b w1 =>
    rw [hr] at hk
    simp only [Res.world] at hk
    simp only []
    refine Res.sat_mono (maybeSwapAlloc_post cfg c o hne w1) ?_ (fun _ _ h => h.elim)
    intro _ w' ⟨h1, h2, h3⟩
    exact ⟨by rw [h1, hk c, hk o], by rw [h2, hk c, hk o], fun d hc ho => by rw [h3 d hc ho, hk d]⟩

theorem AllocSwaps.symm {β : Type} {cfg : Cfg} {c o : Nat} {m : M α β} (h : AllocSwaps cfg o c m) : AllocSwaps cfg c o m :=
  fun w => Res.sat_mono (h w) (fun _ _ hp => hp.symm) (fun _ _ hp => hp)

theorem swapDefault_swaps (cfg : Cfg) (c o : Nat) (hne : c ≠ o) : AllocSwaps (α := α) cfg c o (swapDefault cfg c o) := by
  intro w
  unfold swapDefault
  rw [bind_run, getV_run]; simp only []
  rw [bind_run, getV_run]; simp only []
  refine AllocSwaps.kept_then (kept ?_) hne w
  refine Adds.ite (Counts.swapAllocation _ _) (Adds.ite ?_ (Adds.ite (K.swapElements _ _ _) (K.swapElements _ _ _)))
  exact Adds.bind0 (K.uninitializedMove _ _ _ _ _ _ _) (fun _ => Adds.bind0 (K.destroyRange _ _ _ _) (fun _ =>
    Adds.bind0 (Adds.setDataPtr _ _) (fun _ => Adds.bind0 (Adds.setCapacity _ _) (fun _ =>
    Adds.bind0 (Adds.setDataPtr _ _) (fun _ => Adds.bind0 (Adds.setCapacity _ _) (fun _ => Counts.swapSize _ _))))))

theorem swapUnequal_swaps (cfg : Cfg) (c o : Nat) (hne : c ≠ o) : AllocSwaps (α := α) cfg c o (swapUnequalNoPropagate cfg c o) := by
  intro w
  unfold swapUnequalNoPropagate
  rw [bind_run, getV_run]; simp only []
  rw [bind_run, getV_run]; simp only []
  refine AllocSwaps.kept_then (kept ?_) hne w
  refine Adds.ite (K.buildThen _ _ _ _ _ (fun _ => ?_) (fun _ => ?_)) (Adds.ite (K.swapElements _ _ _) (K.swapElements _ _ _))
  · exact Adds.bind0 (K.uninitializedMove _ _ _ _ _ _ _) (fun _ => Adds.tryCatchL
      (Adds.bind0 (K.assignGen _ _ _ _) (fun _ => K.destroyRange _ _ _ _))
      (fun ex => Adds.bind0 (K.destroyRange _ _ _ _) (fun _ => Adds.throwE ex)))
  · exact Adds.bind0 (K.destroyRange _ _ _ _) (fun _ => Adds.bind0 (Adds.ite (K.deallocate _ _ _) (Adds.pure ()))
      (fun _ => Adds.bind0 (Adds.setDataPtr _ _) (fun _ => Adds.bind0 (Adds.setCapacity _ _) (fun _ => Counts.swapSize _ _))))

/-- swap (small_vector&): both allocators as the rule says on return; nothing changes on a throw -/
theorem swap_alloc_rule (cfg : Cfg) (c o : Nat) (hne : c ≠ o) (w : World α) :
    (swap cfg c o w).sat (fun _ w' => SwapPost cfg c o w w') (fun _ w' => ∀ d, (w'.hdr d).alloc = (w.hdr d).alloc) := by
  unfold swap
  rw [bind_run, getV_run]; simp only []
  rw [bind_run, getV_run]; simp only []
  have hne' : o ≠ c := fun h => hne h.symm
  split
  · split
    · exact AllocSwaps.kept_then (Counts.swapAllocation (p := fun _ => false) _ _).allocKept hne w
    · split
      · exact swapDefault_swaps cfg c o hne w
      · exact (swapDefault_swaps cfg o c hne').symm w
  · split
    · split
      · exact swapDefault_swaps cfg c o hne w
      · exact swapUnequal_swaps cfg c o hne w
    · split
      · exact (swapDefault_swaps cfg o c hne').symm w
      · exact (swapUnequal_swaps cfg o c hne').symm w

/-- construction: default / allocator-extended construction takes the supplied allocator; move construction the source's -/
theorem ctor_default_alloc (c a : Nat) (w : World α) :
    (ctorDefault c a w).sat (fun _ w' => (w'.hdr c).alloc = a ∧ ∀ d, d ≠ c → (w'.hdr d).alloc = (w.hdr d).alloc) (fun _ _ => False) := by
  have h := ctor_sets (c := c) (a := a) (AllocKept.setDefault (α := α) c) w
  obtain ⟨w', hr⟩ : ∃ w', ctorDefault c a w = .ok () w' := ⟨_, rfl⟩
  unfold ctorDefault at hr ⊢
  rw [hr] at h ⊢
  exact h

/-- count / count+value / generator / forward-range construction and copy construction with allocator `a`
    (`a` = the supplied allocator, or select_on_container_copy_construction of the source's, computed by the caller) -/
theorem ctor_fill_alloc_rule (cfg : Cfg) (c a : Nat) (checked : Bool) (srcs : List (Src α)) : CtorSets c a (ctorFill cfg c a checked srcs) := by
  unfold ctorFill
  refine ctor_sets (kept (Adds.bind0 (Adds.getV _) (fun v => Adds.ite ?_ ?_)))
  · exact K.buildInto _ _ _ _ _ (Adds.ite (K.checkedAllocate _ _ _) (K.allocate _ _ _)) _ (fun _ => K.uninitGen _ _ _ _ _)
  · exact Adds.bind0 (Adds.setToInlineStorage _) (fun _ => Adds.bind0 (K.uninitGen _ _ _ _ _) (fun _ => Adds.setSize _ _))

theorem ctor_copy_alloc_rule (cfg : Cfg) (c o a : Nat) (w : World α) :
    (ctorCopy cfg c o a w).sat (fun _ w' => (w'.hdr c).alloc = a ∧ ∀ d, d ≠ c → (w'.hdr d).alloc = (w.hdr d).alloc)
      (fun _ w' => ∀ d, d ≠ c → (w'.hdr d).alloc = (w.hdr d).alloc) := by
  unfold ctorCopy
  rw [bind_run, getV_run]
  exact ctor_fill_alloc_rule cfg c a _ _ w

/-- move construction: the new container takes the source's allocator (its value before the move) -/
theorem ctor_move_alloc_rule (cfg : Cfg) (c o : Nat) (w : World α) :
    (ctorMove cfg c o w).sat (fun _ w' => (w'.hdr c).alloc = (w.hdr o).alloc ∧ ∀ d, d ≠ c → (w'.hdr d).alloc = (w.hdr d).alloc)
      (fun _ w' => ∀ d, d ≠ c → (w'.hdr d).alloc = (w.hdr d).alloc) := by
  unfold ctorMove
  rw [bind_run, getV_run]
  exact ctor_sets (K.moveInitialize cfg c o).allocKept w

/-- allocator-extended move construction: the supplied allocator (when the library treats the allocator type as always
    equal the source's allocator is used, which then compares equal to the supplied one) -/
theorem ctor_move_alloc_extended_rule (cfg : Cfg) (c o a : Nat) (w : World α)
    (hgen : ¬ (cfg.isStdAlloc || (cfg.libAlwaysEq && cfg.alwaysEq)) = true) :
    (ctorMoveAlloc cfg c o a w).sat (fun _ w' => (w'.hdr c).alloc = a ∧ ∀ d, d ≠ c → (w'.hdr d).alloc = (w.hdr d).alloc)
      (fun _ w' => ∀ d, d ≠ c → (w'.hdr d).alloc = (w.hdr d).alloc) := by
  have hdel : ¬ ctorMoveAllocDelegates cfg.policy = true := by
    unfold ctorMoveAllocDelegates Cfg.policy; simpa using hgen
  unfold ctorMoveAlloc
  rw [if_neg hdel, bind_run, getV_run]
  simp only []
  refine ctor_sets (kept (Adds.ite (K.moveInitialize cfg c o) (Adds.bind0 (Adds.getV _) (fun v => Adds.ite ?_ ?_)))) w
  · exact K.buildInto _ _ _ _ _ (K.allocate _ _ _) _ (fun _ => K.uninitializedMove _ _ _ _ _ _ _)
  · exact Adds.bind0 (Adds.setToInlineStorage _) (fun _ => Adds.bind0 (K.uninitializedMove _ _ _ _ _ _ _) (fun _ => Adds.setSize _ _))

/-- the two allocator-extended move constructors are selected by complementary conditions (exactly one is viable), and
    the one that ignores its allocator argument is viable only when all allocators of the type are equal -/
theorem ctor_move_alloc_overloads (p : PolicyEnv) :
    ctorMoveAllocGeneral p = !ctorMoveAllocDelegates p ∧
    (ctorMoveAllocDelegates p = true → p.isStdAlloc = true ∨ (p.libAlwaysEq = true ∧ p.alwaysEq = true)) := by
  unfold ctorMoveAllocGeneral ctorMoveAllocDelegates
  refine ⟨rfl, fun h => ?_⟩
  simpa using h

/-- every other member function (push_back, insert, erase, resize, reserve, …) keeps the allocator: see
    `SvModel.AllocKept.*` (Proofs/AllocKept.lean), e.g. -/
theorem dtor_keeps_allocators (cfg : Cfg) (c : Nat) : AllocKept (dtor cfg c : M α Unit) := AllocKept.wipe cfg c

/-! ### non-vacuity: the rule distinguishes the trait combinations -/
example : allocAfterCopyAssign { Ex.cfgT with pocca := true } 1 2 = 2 := by decide
example : allocAfterCopyAssign { Ex.cfgT with pocca := false } 1 2 = 1 := by decide

end SvModel.C07
