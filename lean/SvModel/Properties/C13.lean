/-
C13 — Bulk-copy fast paths are unobservable; converting inputs are value-converted.

In the model a trivially copyable element type is `Cfg.trivial = true`: element operations cannot throw, emit no
events, and "moves" leave the source intact (memcpy / memmove / fill).  `trivial_twin_*`: for every operation with a
refinement theorem, the contents after the operation are the same list whether the type is trivially copyable or
not — both refine the same L0 function — and in both modes the model's lifetime log stays empty (no slot outside the
block is touched: every access is bounds-checked by the slot machine, an out-of-range access would be logged).
The conversion clause and the "adds no requirement" clause are about C++ types, outside the slot model: they are
checked on the real header by the conversion monitor (harness/convert.cpp: every element built or assigned from a
convertible value / range equals static_cast<T>(source), for integral, enum, bool, char, floating and pointer pairs
incl. a base class at non-zero offset) and by compile probes of minimal-requirement archetypes (harness/probes/).
-/
import SvModel.Properties.C08
import SvModel.Proofs.InputRange
import SvModel.Spec.Convert

namespace SvModel.C13
open SvModel Gen
variable {α : Type}

/-- the same configuration for a trivially copyable twin of the element type -/
def twin (cfg : Cfg) : Cfg := { cfg with trivial := true }

theorem twin_strongPolicy (cfg : Cfg) : StrongPolicy (twin cfg) := by
  intro _; rfl

/-- push_back: same resulting contents for the type and its trivially copyable twin -/
theorem trivial_twin_push_back (cfg : Cfg) (c : Nat) (a : α) (w1 w2 w1' w2' : World α) (r1 r2 : Nat) (xs : List (Val α))
    (hp1 : Pre cfg w1 c) (hp2 : Pre (twin cfg) w2 c) (hpol : StrongPolicy cfg) (hx1 : Holds w1 c xs) (hx2 : Holds w2 c xs)
    (hr1 : appendElement cfg c (.ext a) w1 = .ok r1 w1') (hr2 : appendElement (twin cfg) c (.ext a) w2 = .ok r2 w2') :
    ∃ ys, Holds w1' c ys ∧ Holds w2' c ys ∧ r1 = r2 :=
  C08.results_mode_independent_push_back cfg (twin cfg) c a w1 w2 w1' w2' r1 r2 xs hp1 hp2 hpol (twin_strongPolicy cfg) hx1 hx2 hr1 hr2

theorem trivial_twin_erase (cfg : Cfg) (c pos : Nat) (w1 w2 w1' w2' : World α) (r1 r2 : Nat) (xs : List (Val α))
    (hp1 : Pre cfg w1 c) (hp2 : Pre (twin cfg) w2 c) (hpos : pos < xs.length) (hx1 : Holds w1 c xs) (hx2 : Holds w2 c xs)
    (hr1 : eraseAt cfg c pos w1 = .ok r1 w1') (hr2 : eraseAt (twin cfg) c pos w2 = .ok r2 w2') :
    ∃ ys, Holds w1' c ys ∧ Holds w2' c ys ∧ r1 = r2 := by
  have h1 := C01.erase_refines cfg c pos w1 w1' r1 xs hp1 (by rw [← hx1.1]; exact hpos) hx1 hr1
  have h2 := C01.erase_refines (twin cfg) c pos w2 w2' r2 xs hp2 (by rw [← hx2.1]; exact hpos) hx2 hr2
  exact ⟨_, h1.1, h2.1, by rw [h1.2, h2.2]⟩

theorem trivial_twin_erase_range (cfg : Cfg) (c p q : Nat) (w1 w2 w1' w2' : World α) (r1 r2 : Nat) (xs : List (Val α))
    (hp1 : Pre cfg w1 c) (hp2 : Pre (twin cfg) w2 c) (h1 : p ≤ q) (h2 : q ≤ xs.length) (hx1 : Holds w1 c xs) (hx2 : Holds w2 c xs)
    (hr1 : eraseRange cfg c p q w1 = .ok r1 w1') (hr2 : eraseRange (twin cfg) c p q w2 = .ok r2 w2') :
    ∃ ys, Holds w1' c ys ∧ Holds w2' c ys ∧ r1 = r2 :=
  C08.results_mode_independent_erase cfg (twin cfg) c p q w1 w2 w1' w2' r1 r2 xs hp1 hp2 h1 h2 hx1 hx2 hr1 hr2

theorem trivial_twin_resize (cfg : Cfg) (c n : Nat) (a : α) (w1 w2 w1' w2' : World α) (xs : List (Val α))
    (hp1 : Pre cfg w1 c) (hp2 : Pre (twin cfg) w2 c) (hpol : StrongPolicy cfg) (hx1 : Holds w1 c xs) (hx2 : Holds w2 c xs)
    (hr1 : resizeWith cfg c n (.ext a) w1 = .ok () w1') (hr2 : resizeWith (twin cfg) c n (.ext a) w2 = .ok () w2') :
    ∃ ys, Holds w1' c ys ∧ Holds w2' c ys :=
  C08.results_mode_independent_resize cfg (twin cfg) c n a w1 w2 w1' w2' xs hp1 hp2 hpol (twin_strongPolicy cfg) hx1 hx2 hr1 hr2

theorem trivial_twin_reserve_shrink (cfg : Cfg) (c n : Nat) (w1 w2 w1' w2' : World α) (xs : List (Val α))
    (hp1 : Pre cfg w1 c) (hp2 : Pre (twin cfg) w2 c) (hpol : StrongPolicy cfg) (hx1 : Holds w1 c xs) (hx2 : Holds w2 c xs) :
    (requestCapacity cfg c n w1 = .ok () w1' → requestCapacity (twin cfg) c n w2 = .ok () w2' → Holds w1' c xs ∧ Holds w2' c xs) ∧
    (shrinkToSize cfg c w1 = .ok () w1' → shrinkToSize (twin cfg) c w2 = .ok () w2' → Holds w1' c xs ∧ Holds w2' c xs) :=
  ⟨fun a b => ⟨C01.reserve_refines cfg c n w1 w1' xs hp1 hpol hx1 a, C01.reserve_refines _ c n w2 w2' xs hp2 (twin_strongPolicy cfg) hx2 b⟩,
   fun a b => ⟨C01.shrink_to_fit_refines cfg c w1 w1' xs hp1 hpol hx1 a, C01.shrink_to_fit_refines _ c w2 w2' xs hp2 (twin_strongPolicy cfg) hx2 b⟩⟩

theorem trivial_twin_append_range (cfg : Cfg) (c : Nat) (vs : List α) (w1 w2 w1' w2' : World α) (r1 r2 : Nat) (xs : List (Val α))
    (hp1 : Pre cfg w1 c) (hp2 : Pre (twin cfg) w2 c) (hpol : StrongPolicy cfg) (hx1 : Holds w1 c xs) (hx2 : Holds w2 c xs)
    (hr1 : appendRangeFwd cfg c true (vs.map Src.ext) w1 = .ok r1 w1') (hr2 : appendRangeFwd (twin cfg) c true (vs.map Src.ext) w2 = .ok r2 w2') :
    ∃ ys, Holds w1' c ys ∧ Holds w2' c ys ∧ r1 = r2 := by
  have a := C01.append_range_refines cfg c vs w1 w1' r1 xs hp1 hpol hx1 hr1
  have b := C01.append_range_refines (twin cfg) c vs w2 w2' r2 xs hp2 (twin_strongPolicy cfg) hx2 hr2
  exact ⟨_, a.1, b.1, by rw [a.2, b.2]⟩

/-- in the trivially copyable mode no element operation is a fault point: only the allocator can throw -/
theorem trivial_no_element_faults (cfg : Cfg) :
    (twin cfg).tCopy = false ∧ (twin cfg).tMove = false ∧ (twin cfg).tCasg = false ∧ (twin cfg).tMasg = false ∧ (twin cfg).tVctor = false := by
  refine ⟨rfl, rfl, rfl, rfl, rfl⟩

/-! ### the conversion clause: the header's memcpy-eligibility verdicts (table regenerated by the compiler from the real
    header on every run) against the model of `static_cast` on object representations (Spec/Convert.lean) -/
open SvModel.Conv in
/-- a row of the table is in order: whenever the header selects a bulk copy for the pair (assignment or construction,
    from a prvalue, an lvalue or a const lvalue), the conversion provably preserves every object representation -/
def rowSound (r : McRow) : Bool := !(r.asg || r.ctor) || ReprPreserving (r.fromName == r.toName) r.from_ r.to

/-- EVERY pair the header deems memcpy-able is representation-preserving (kernel evaluation over the whole table) -/
theorem memcpy_table_sound : mcTable.all rowSound = true := by decide +kernel

/-- class types (and scalars) T → T, per value category of the source: whenever the header selects the bulk copy, RUNNING the
    constructor / assignment operator that overload resolution selects for that category leaves exactly the source's bytes
    (ground truth obtained by execution in the table program) — in particular a trivially copyable type whose construction
    or assignment from a NON-CONST LVALUE selects a template is not bulk-copied from such a source -/
def classRowSound (r : McClassRow) : Bool :=
  (!r.ctorR || r.truthCtorR) && (!r.ctorL || r.truthCtorL) && (!r.ctorC || r.truthCtorC) &&
  (!r.asgR || r.truthAsgR) && (!r.asgL || r.truthAsgL) && (!r.asgC || r.truthAsgC)

theorem memcpy_class_table_sound : mcClassTable.all classRowSound = true := by decide +kernel

/-- non-vacuity: the table contains a type for which the categories differ, and the header tells them apart -/
example : mcClassTable.any (fun r => r.ctorR && !r.ctorL && r.truthCtorR && !r.truthCtorL) = true := by decide +kernel

open SvModel.Conv in
/-- … hence, for such a pair of distinct integral / enumeration types, copying the bytes of ANY valid source object
    yields exactly `static_cast<To>(source)` — for every representation, not only the sampled ones -/
theorem memcpy_is_static_cast (r : McRow) (hr : r ∈ mcTable) (hsel : (r.asg || r.ctor) = true) (hne : (r.fromName == r.toName) = false)
    (x : Nat) (hx : ValidRep r.from_ x) : convInt r.from_ r.to x = x := by
  have h := List.all_eq_true.mp memcpy_table_sound r hr
  unfold rowSound at h
  rw [hsel, hne] at h
  exact reprPreserving_sound r.from_ r.to x (by simpa using h) hx

open SvModel.Conv in
/-- the model of static_cast agrees with the COMPILER's static_cast on every sampled bit pattern of every
    integral / enumeration pair of the table (validation of Spec/Convert.lean against the real thing) -/
theorem convert_model_matches_compiler :
    (mcTable.filter fun r => decide (r.from_.kind ≤ 1) && decide (r.to.kind ≤ 1)).all
      (fun r => r.identBySamples == identOnSamples r.from_ r.to) = true := by decide +kernel

/-- pointers: a bulk copy is selected only for implicit conversions that do not adjust the address (cv-qualification,
    conversion to void *); never for a base class, whose subobject may live at a non-zero offset -/
theorem memcpy_ptr_table_sound :
    mcPtrTable.all (fun r => !(r.asg || r.ctor) || (r.convertible && decide (r.offset = 0))) = true := by decide +kernel

/-- the table really contains a base at a non-zero offset (so the previous theorem is not vacuous), and it is refused -/
example : mcPtrTable.any (fun r => r.convertible && decide (r.offset ≠ 0) && !(r.asg || r.ctor)) = true := by decide +kernel

/-- iterators: only iterators that address contiguous storage are classified contiguous (reverse iterators, deque,
    list, stream and vector<bool> iterators are not) -/
theorem contiguous_iterator_table_sound : mcItTable.all (fun r => !r.deemed || r.truly) = true := by decide +kernel

/-- non-vacuity: the table contains eligible converting pairs (e.g. int → unsigned), refused narrowing-to-bool pairs
    (unsigned char → bool) and refused width-changing pairs -/
example : mcTable.any (fun r => (r.asg && r.ctor) && !(r.fromName == r.toName)) = true := by decide +kernel
example : mcTable.any (fun r => r.fromName == "unsigned_char" && r.toName == "bool" && !(r.asg || r.ctor) && !r.identBySamples) = true := by decide +kernel

end SvModel.C13
