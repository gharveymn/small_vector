/-
The system invariant for the DRIVER'S OWN state machine (`Sys.step`, Api.lean) — the thing the differential run executes
line by line: a protocol call that has a history-language counterpart (Bridge.toMOp) and is valid there takes a state
whose world satisfies `SysAll` (for the list of constructed containers) to such a state again, whatever the fault list,
returned or thrown; and the driver's `alive` flags stay in step with that list.
-/
import SvModel.Properties.Bridge
import SvModel.Properties.C15

namespace SvModel.Bridge
open SvModel Gen History SvModel.System

def resSys : Res Sys Out → Sys
  | .ok _ s => s
  | .thrown _ s => s

theorem setAlive_w (s : Sys) (x : Nat) (b : Bool) : (setAlive s x b).w = s.w := rfl

/-- the driver's state after a call, outcome forgotten: the world the call left behind, and the flag of the container it
    constructed or destroyed set if it returned (the stream counter `n` plays no role in what follows) -/
theorem resSys_step (ac : ApiCfg) (s : Sys) (op : Op) (f : List Nat) :
    ∃ n, resSys (s.step ac op f) = match opM ac s op { s.w with faults := f } with
      | .ok _ w => { w := w, alive := match op.life with | some (x, b) => s.alive.set x b | none => s.alive, nextStream := n }
      | .thrown _ w => { w := w, alive := s.alive, nextStream := n } := by
  unfold Sys.step
  simp only []
  have e : ∃ n, (if usesStream op = true then ({ s with nextStream := s.nextStream + 1 } : Sys) else s) = { s with nextStream := n } := by
    split
    · exact ⟨_, rfl⟩
    · exact ⟨s.nextStream, rfl⟩
  obtain ⟨n, e⟩ := e
  rw [e]
  refine ⟨n, ?_⟩
  cases opM ac s op { s.w with faults := f } with
  | thrown e w => rfl
  | ok out w => cases op <;> rfl

theorem api_step_world (ac : ApiCfg) (s : Sys) (op : Op) (f : List Nat) (m : MOp Int) (A : List Nat) (h : toMOp ac s op = some m) :
    (resSys (s.step ac op f)).w = (System.step ac.cfg ⟨s.w, A⟩ (m, f)).w := by
  obtain ⟨n, e⟩ := resSys_step ac s op f
  rw [e, step_eq, ← bridge ac s op m { s.w with faults := f } rfl h]
  cases opM ac s op { s.w with faults := f } <;> rfl

theorem api_step_sys (ac : ApiCfg) (U : List Nat) (hpol : StrongPolicy ac.cfg) (s : Sys) (op : Op) (f : List Nat) (m : MOp Int) (A : List Nat)
    (h : toMOp ac s op = some m) (hs : SysAll ac.cfg s.w U A) (hv : m.valid ac.cfg U ⟨s.w, A⟩) :
    SysAll ac.cfg (resSys (s.step ac op f)).w U (System.step ac.cfg ⟨s.w, A⟩ (m, f)).A := by
  rw [api_step_world ac s op f m A h]
  exact step_sys ac.cfg U hpol ⟨s.w, A⟩ (m, f) hs hv

theorem getD_set (l : List Bool) (x y : Nat) (b : Bool) (hx : x < l.length) :
    (l.set x b).getD y false = if y = x then b else l.getD y false := by
  by_cases hy : y = x
  · subst hy; simp [List.getD, hx]
  · simp [List.getD, hy, Ne.symm hy]

/-- … and the driver's `alive` flags describe exactly the list of constructed containers the theorems carry along -/
theorem api_step_alive (ac : ApiCfg) (s : Sys) (op : Op) (f : List Nat) (m : MOp Int) (A : List Nat)
    (h : toMOp ac s op = some m) (hlen : s.alive.length = 4) (hA : ∀ c, c ∈ A ↔ s.isAlive c = true)
    (hx : ∀ x b, m.life = some (x, b) → x < 4) :
    ∀ c, c ∈ (System.step ac.cfg ⟨s.w, A⟩ (m, f)).A ↔ (resSys (s.step ac op f)).isAlive c = true := by
  intro c
  obtain ⟨n, e⟩ := resSys_step ac s op f
  rw [e, step_eq, ← bridge ac s op m { s.w with faults := f } rfl h, ← toMOp_life h]
  cases opM ac s op { s.w with faults := f } with
  | thrown e w => exact hA c
  | ok out w =>
    show c ∈ m.after A ↔ (match m.life with | some (x, b) => s.alive.set x b | none => s.alive).getD c false = true
    unfold MOp.after
    cases hl : m.life with
    | none => exact hA c
    | some p =>
      obtain ⟨x, b⟩ := p
      have hxl : x < s.alive.length := hlen ▸ hx x b hl
      cases b with
      | false =>
        show c ∈ A.filter (· ≠ x) ↔ (s.alive.set x false).getD c false = true
        rw [getD_set _ _ _ _ hxl, List.mem_filter, hA c]
        by_cases hc : c = x <;> simp [hc, Sys.isAlive]
      | true =>
        show c ∈ x :: A ↔ (s.alive.set x true).getD c false = true
        rw [getD_set _ _ _ _ hxl, List.mem_cons, hA c]
        by_cases hc : c = x <;> simp [hc, Sys.isAlive]

theorem step_alive_length (ac : ApiCfg) (s : Sys) (op : Op) (f : List Nat) (hlen : s.alive.length = 4) :
    (resSys (s.step ac op f)).alive.length = 4 := by
  obtain ⟨n, e⟩ := resSys_step ac s op f
  rw [e]
  cases opM ac s op { s.w with faults := f } with
  | thrown e w => exact hlen
  | ok out w =>
    show (match op.life with | some (x, b) => s.alive.set x b | none => s.alive).length = 4
    cases op.life with
    | none => exact hlen
    | some p => exact List.length_set.trans hlen

def apiRun (ac : ApiCfg) : Sys → List (Op × List Nat) → Sys
  | s, [] => s
  | s, (op, f) :: h => apiRun ac (resSys (s.step ac op f)) h

/-- every call of the history has a counterpart in the history language and is valid there (in the state reached) -/
def Covered (ac : ApiCfg) (U : List Nat) : Sys → List Nat → List (Op × List Nat) → Prop
  | _, _, [] => True
  | s, A, (op, f) :: h => ∃ m, toMOp ac s op = some m ∧ m.valid ac.cfg U ⟨s.w, A⟩ ∧
      Covered ac U (resSys (s.step ac op f)) (System.step ac.cfg ⟨s.w, A⟩ (m, f)).A h

/-- along every covered history of protocol calls — each with an arbitrary fault list, continuing after throws — the
    driver's world satisfies the system invariant for the containers its `alive` flags mark as constructed -/
theorem api_reachable_sys (ac : ApiCfg) (hpol : StrongPolicy ac.cfg) :
    ∀ (h : List (Op × List Nat)) (s : Sys) (A : List Nat), s.alive.length = 4 → (∀ c, c ∈ A ↔ s.isAlive c = true) →
      SysAll ac.cfg s.w [0, 1, 2, 3] A → Covered ac [0, 1, 2, 3] s A h →
      ∃ A', (∀ c, c ∈ A' ↔ (apiRun ac s h).isAlive c = true) ∧ SysAll ac.cfg (apiRun ac s h).w [0, 1, 2, 3] A'
  | [], s, A, _, hA, hs, _ => ⟨A, hA, hs⟩
  | (op, f) :: h, s, A, hlen, hA, hs, hc => by
    obtain ⟨m, hm, hv, hrest⟩ := hc
    have hsys := api_step_sys ac [0, 1, 2, 3] hpol s op f m A hm hs hv
    have hx : ∀ x b, m.life = some (x, b) → x < 4 := fun x b hl => by
      have := life_mem hs.sub hv hl
      simp at this; omega
    have hal := api_step_alive ac s op f m A hm hlen hA hx
    exact api_reachable_sys ac hpol h _ _ (step_alive_length ac s op f hlen) hal hsys hrest

theorem api_reachable_from_init (ac : ApiCfg) (hpol : StrongPolicy ac.cfg) (N M : Nat) (hN : N ≤ ac.cfg.maxSize) (hM : M ≤ ac.cfg.maxSize)
    (h : List (Op × List Nat)) (hc : Covered ac [0, 1, 2, 3] (initSys N M) [] h) :
    ∃ A', (∀ c, c ∈ A' ↔ (apiRun ac (initSys N M) h).isAlive c = true) ∧ SysAll ac.cfg (apiRun ac (initSys N M) h).w [0, 1, 2, 3] A' :=
  api_reachable_sys ac hpol h (initSys N M) [] rfl
    (fun c => by
      constructor
      · intro hc'; cases hc'
      · intro hc'
        exfalso
        have : ∀ c, (initSys N M).isAlive c = false := by
          intro c; unfold Sys.isAlive initSys
          match c with
          | 0 | 1 | 2 | 3 => rfl
          | n+4 => rfl
        rw [this c] at hc'; cases hc')
    (init_sys ac.cfg N M hN hM) hc

/-- non-vacuity: a protocol history from the driver's initial state that is covered — construction, push_back of an own
    element that reallocates (with a fault list), copy construction across inline capacities, the moving append, a
    destruction -/
def exApi : List (Op × List Nat) :=
  [(.newv 0 2 7 0, []), (.pb 0 (.self 1), [1]), (.pb 0 (.self 1), []), (.newc 2 0 (some 0), []), (.appm 2 0, []), (.del 0, [])]

example : Covered { cfg := Ex.cfgT } [0, 1, 2, 3] (initSys 2 3) [] exApi := by
  refine ⟨_, rfl, ?_, _, rfl, ?_, _, rfl, ?_, _, rfl, ?_, _, rfl, ?_, _, rfl, ?_, trivial⟩
  · show 0 ∈ [0, 1, 2, 3] ∧ 0 ∉ ([] : List Nat); decide
  · refine ⟨by decide +kernel, ?_⟩; show 1 < _; decide +kernel
  · refine ⟨by decide +kernel, ?_⟩; show 1 < _; decide +kernel
  · show 2 ∈ [0, 1, 2, 3] ∧ 2 ∉ _ ∧ 0 ∈ _; decide +kernel
  · show 2 ∈ _ ∧ 0 ∈ _ ∧ 0 ≠ 2; decide +kernel
  · show 0 ∈ _; decide +kernel

example : (apiRun { cfg := Ex.cfgT } (initSys 2 3) exApi).alive = [false, false, true, false] ∧
    (apiRun { cfg := Ex.cfgT } (initSys 2 3) exApi).w.live.length = 1 := by decide +kernel

/-- non-vacuity for the single-pass calls: a range construction that throws on its second element (nothing is constructed,
    nothing stays allocated), the same returning, the public append throwing and returning, an assignment, an insert at end () -/
def exApiIn : List (Op × List Nat) :=
  [(.newr 0 .inp 0 [1, 2, 3], [1]), (.newr 0 .inp 0 [1, 2, 3], []), (.app 0 .inp [4, 5], [1]), (.app 0 .inp [4, 5], []),
   (.asr 0 .inp [9], []), (.insr 0 1 .inp [8, 7], [])]

example : Covered { cfg := Ex.cfgT } [0, 1, 2, 3] (initSys 2 3) [] exApiIn := by
  refine ⟨_, rfl, ?_, _, rfl, ?_, _, rfl, ?_, _, rfl, ?_, _, rfl, ?_, .on 0 (.appendInput false 5 [8, 7]), by decide +kernel, ?_, trivial⟩
  · show 0 ∈ [0, 1, 2, 3] ∧ 0 ∉ ([] : List Nat); decide
  · show 0 ∈ [0, 1, 2, 3] ∧ 0 ∉ _; decide +kernel
  · exact ⟨by decide +kernel, trivial⟩
  · exact ⟨by decide +kernel, trivial⟩
  · exact ⟨by decide +kernel, trivial⟩
  · exact ⟨by decide +kernel, trivial⟩

example : let s1 := apiRun { cfg := Ex.cfgT } (initSys 2 3) (exApiIn.take 1)
    let s := apiRun { cfg := Ex.cfgT } (initSys 2 3) exApiIn
    s1.alive = [false, false, false, false] ∧ s1.w.live = [] ∧
    (s.w.mem (s.w.hdr 0).data).take (s.w.hdr 0).size = [.obj (.val 9), .obj (.val 8), .obj (.val 7)] := by decide +kernel

def apiReturned (ac : ApiCfg) (s : Sys) (op : Op) (f : List Nat) : Bool :=
  match s.step ac op f with
  | .ok _ _ => true
  | .thrown _ _ => false

theorem api_returned_iff (ac : ApiCfg) (s : Sys) (op : Op) (f : List Nat) (m : MOp Int) (A : List Nat) (h : toMOp ac s op = some m) :
    apiReturned ac s op f = returned ac.cfg ⟨s.w, A⟩ (m, f) := by
  unfold apiReturned returned Sys.step
  rw [← bridge ac s op m { s.w with faults := f } rfl h]
  simp only []
  cases opM ac s op { s.w with faults := f } <;> rfl

/-- the history-language calls of a covered protocol history, and "every call returned" -/
def CoveredRet (ac : ApiCfg) (U : List Nat) : Sys → List Nat → List (Op × List Nat) → List (MOp Int) → Prop
  | _, _, [], ms => ms = []
  | s, A, (op, f) :: h, ms => ∃ m ms', ms = m :: ms' ∧ toMOp ac s op = some m ∧ m.valid ac.cfg U ⟨s.w, A⟩ ∧ apiReturned ac s op f = true ∧
      CoveredRet ac U (resSys (s.step ac op f)) (System.step ac.cfg ⟨s.w, A⟩ (m, f)).A h ms'

/-- C01 for the driver's own runs: along a covered history of protocol calls that all returned (each with an arbitrary
    fault list that did not fire fatally), the constructed containers hold what the corresponding `std::vector`s hold after
    the same calls (`SpecRun`: the L0 meaning; the source of an element-wise move is left open, as the standard leaves it) -/
theorem api_refines_rel (ac : ApiCfg) (hpol : StrongPolicy ac.cfg) :
    ∀ (h : List (Op × List Nat)) (ms : List (MOp Int)) (s : Sys) (A : List Nat) (σ : Nat → List (Val Int)),
      SysAll ac.cfg s.w [0, 1, 2, 3] A → Tracks ⟨s.w, A⟩ σ → CoveredRet ac [0, 1, 2, 3] s A h ms →
      ∃ σ' A', SpecRun ms σ σ' ∧ Tracks ⟨(apiRun ac s h).w, A'⟩ σ' ∧ SysAll ac.cfg (apiRun ac s h).w [0, 1, 2, 3] A'
  | [], ms, s, A, σ, hs, ht, hc => by
    have : ms = [] := hc
    subst this
    exact ⟨σ, A, rfl, ht, hs⟩
  | (op, f) :: h, ms, s, A, σ, hs, ht, hc => by
    obtain ⟨m, ms', hms, hm, hv, hret, hrest⟩ := hc
    subst hms
    have hret' : returned ac.cfg ⟨s.w, A⟩ (m, f) = true := (api_returned_iff ac s op f m A hm).symm.trans hret
    obtain ⟨σ1, h1, ht1⟩ := (step_tracks ac.cfg [0, 1, 2, 3] hpol ⟨s.w, A⟩ (m, f) σ hs hv ht).1 hret'
    -- the driver's next state has the world of the history language's next state
    obtain ⟨σ', A', hr, ht', hs'⟩ := api_refines_rel ac hpol h ms' _ _ σ1 (api_step_sys ac _ hpol s op f m A hm hs hv)
      (fun c hc => api_step_world ac s op f m A hm ▸ ht1 c hc) hrest
    exact ⟨σ', A', ⟨σ1, h1, hr⟩, ht', hs'⟩

/-- non-vacuity: the returning calls of `exApi` -/
example : CoveredRet { cfg := Ex.cfgT } [0, 1, 2, 3] (initSys 2 3) []
    [(.newv 0 2 7 0, []), (.pb 0 (.self 1), []), (.newc 2 0 (some 0), []), (.appm 2 0, [])]
    [.ctorVals 0 0 [7, 7], .on 0 (.pushBackSelf 1), .ctorCopy 2 0 0, .appendMove 2 0] := by
  refine ⟨_, _, rfl, rfl, ?_, by decide +kernel, _, _, rfl, rfl, ?_, by decide +kernel, _, _, rfl, rfl, ?_, by decide +kernel, _, _, rfl, rfl, ?_, by decide +kernel, rfl⟩
  · show 0 ∈ [0, 1, 2, 3] ∧ 0 ∉ ([] : List Nat); decide
  · refine ⟨by decide +kernel, ?_⟩; show 1 < _; decide +kernel
  · show 2 ∈ [0, 1, 2, 3] ∧ 2 ∉ _ ∧ 0 ∈ _; decide +kernel
  · show 2 ∈ _ ∧ 0 ∈ _ ∧ 0 ≠ 2; decide +kernel

/-- C15 at every state the driver can reach: after ANY covered history of protocol calls (any fault lists), a call that
    consumes a single-pass range — `append`, `assign`, `insert` anywhere — on a constructed container and returns has
    dereferenced and incremented every position exactly once, in order, and nothing beyond (the streams are the ones the
    driver numbers with `nextStream`; the mid-sequence insert needs no hypothesis at all) -/
theorem api_stream_once (ac : ApiCfg) (hpol : StrongPolicy ac.cfg) (N M : Nat) (hN : N ≤ ac.cfg.maxSize) (hM : M ≤ ac.cfg.maxSize)
    (h : List (Op × List Nat)) (hc : Covered ac [0, 1, 2, 3] (initSys N M) [] h)
    (x : Nat) (vs : List Int) (f : List Nat) (hx : (apiRun ac (initSys N M) h).isAlive x = true) :
    let s := apiRun ac (initSys N M) h
    let w0 : World Int := { s.w with faults := f }
    (∀ r w', appendRangeInput ac.cfg x true s.nextStream 0 vs w0 = .ok r w' →
        iterEvs w'.trace = iterEvs w0.trace ++ streamEvs s.nextStream 0 vs.length) ∧
    (∀ u w', assignWithRangeInput ac.cfg x s.nextStream vs w0 = .ok u w' →
        iterEvs w'.trace = iterEvs w0.trace ++ streamEvs s.nextStream 0 vs.length) ∧
    (∀ p r w', insertRangeInputMid ac.cfg x p s.nextStream vs w0 = .ok r w' →
        iterEvs w'.trace = iterEvs w0.trace ++ streamEvs s.nextStream 0 vs.length) := by
  intro s w0
  obtain ⟨A', hA', hs'⟩ := api_reachable_from_init ac hpol N M hN hM h hc
  have hxA : x ∈ A' := (hA' x).mpr hx
  have hs0 := sysAll_faults hs' f
  have hv : VecOK ac.cfg w0 x := hs0.ok.vec x hxA
  have hl : Ledger w0 := hs0.ok.led
  have hn : (w0.hdr x).N ≤ ac.cfg.maxSize := hs0.ok.nmax x hxA
  refine ⟨fun r w' hr => ?_, fun u w' hr => ?_, fun p r w' hr => ?_⟩
  · exact C15.stream_once ac.cfg x true s.nextStream 0 vs w0 w' r hv hl hn hpol hr
  · exact (C15.assign_stream_once ac.cfg x s.nextStream vs w0 w' u hv hl hn hpol hr).1
  · exact C15.insert_mid_stream_once ac.cfg x p s.nextStream vs w0 w' r hr

/-- what the system invariant says, spelled out for every state the driver reaches (C02 / C03 / C04 / C07 storage side):
    every constructed container satisfies the storage invariants; the live allocator blocks are exactly the buffers of the
    non-inlined constructed containers, no block is owned twice; each heap buffer belongs to the allocator its container
    holds NOW; no lifetime violation was logged -/
theorem api_clauses (ac : ApiCfg) (hpol : StrongPolicy ac.cfg) (N M : Nat) (hN : N ≤ ac.cfg.maxSize) (hM : M ≤ ac.cfg.maxSize)
    (h : List (Op × List Nat)) (hc : Covered ac [0, 1, 2, 3] (initSys N M) [] h) :
    let s := apiRun ac (initSys N M) h
    (∀ c, s.isAlive c = true → VecOK ac.cfg s.w c) ∧
    (∀ b ∈ s.w.live, ∃ c, s.isAlive c = true ∧ (s.w.hdr c).data = b ∧ (s.w.hdr c).data ≠ (s.w.hdr c).inl) ∧
    (∀ c, s.isAlive c = true → (s.w.hdr c).data ≠ (s.w.hdr c).inl → (s.w.hdr c).data ∈ s.w.live ∧ s.w.owner (s.w.hdr c).data = (s.w.hdr c).alloc) ∧
    (∀ c d, s.isAlive c = true → s.isAlive d = true → c ≠ d → (s.w.hdr c).data ≠ (s.w.hdr c).inl → (s.w.hdr c).data ≠ (s.w.hdr d).data) ∧
    s.w.ub = [] := by
  intro s
  obtain ⟨A', hA', hs'⟩ := api_reachable_from_init ac hpol N M hN hM h hc
  obtain ⟨c1, c2, c3, c4, _, c6⟩ := sys_clauses hs'
  have mem : ∀ {c}, s.isAlive c = true → c ∈ A' := fun hc' => (hA' _).mpr hc'
  refine ⟨fun c hc' => c1 c (mem hc'), fun b hb => ?_, fun c hc' hne => ⟨c3 c (mem hc') hne, sys_alloc_clause hs' c (mem hc') hne⟩,
          fun c d hc' hd' hcd hne => c4 c (mem hc') d (mem hd') hcd hne, c6⟩
  obtain ⟨c, hcA, h1, h2⟩ := c2 b hb
  exact ⟨c, (hA' c).mp hcA, h1, h2⟩

end SvModel.Bridge
