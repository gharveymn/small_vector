/-
Property theorems for the member operations proved so far at L2 (the slot machine that mirrors small_vector_base):
  push_back / emplace_back (`appendElement`), pop_back (`eraseLast`), erase(pos) (`eraseAt`),
  erase(first,last) (`eraseRange`), clear (`eraseAll`), reserve (`requestCapacity`), shrink_to_fit (`shrinkToSize`),
  resize(n) / resize(n, x) (`resizeWith`), append(first, last) for multi-pass ranges (`appendRangeFwd`),
  insert(end, n, x) (`appendCopies`).
Each theorem quantifies over every configuration `cfg`, every world satisfying the invariants (`VecOK`, `Ledger`),
every inline capacity, inline or heap representation, and EVERY fault list (`w.faults` is arbitrary).
They are thin corollaries of the operation specifications in Proofs/Append.lean and Proofs/Erase.lean, restated per
property so that the statements can be read against properties.jsonl.
-/
import SvModel.Proofs.Examples
import SvModel.Proofs.AppendN
import SvModel.Proofs.Capacity
import SvModel.Proofs.Assign
import SvModel.Spec.L0

namespace SvModel
open Gen
variable {α : Type}

/-- the standing assumptions of every theorem about container `c` -/
structure Pre (cfg : Cfg) (w : World α) (c : Nat) : Prop where
  vec  : VecOK cfg w c
  led  : Ledger w
  nmax : (w.hdr c).N ≤ cfg.maxSize
  ub   : w.ub = []

/-- relocation under the strong policy cannot leave husks: the type is nothrow-move-constructible or it is relocated by copy
    (C05's side condition "other than the move constructor of a type that is not copy-insertable") -/
def StrongPolicy (cfg : Cfg) : Prop := movesFor cfg true = true → cfg.tMove = false

theorem external_ext (vs : List α) : External (vs.map (Src.ext (α := α))) :=
  fun s hs => by obtain ⟨a, _, rfl⟩ := List.mem_map.mp hs; rfl

section
variable {cfg : Cfg} {w : World α} {c : Nat}

theorem Pre.use {P : Prop} (hp : Pre cfg w c) (spec : VecOK cfg w c → Ledger w → P) : P :=
  spec hp.vec hp.led

theorem Pre.sat_appendRangeFwd (hp : Pre cfg w c) (strong : Bool) (vs : List α) (hpol : StrongPolicy cfg) :
    (appendRangeFwd cfg c strong (vs.map Src.ext) w).sat
      (fun r w' => r = (w.hdr c).size ∧ Appended cfg w w' c (vs.map Val.val)) (fun _ w' => AppendFail cfg strong w w' c) :=
  map_srcVal_ext w vs ▸
    hp.use (appendRangeFwd_sat cfg c strong _ w) hp.nmax ((argsOK_ext cfg w c vs).srcs hp.vec hp.led) (fun _ => hpol)

/-- The erase family at once: a normal return has shrunk `c` in place; pop_back and clear never throw; a throw out
    of erase(pos) or erase(first, last) keeps the basic guarantee and the header.  `Q` and `E` are what a property
    reads off these outcomes. -/
theorem Pre.erase_family (hp : Pre cfg w c) {Q E : World α → Prop}
    (hQ : ∀ {w' f}, Shrunk cfg w w' c f → Q w') (hE : ∀ {w'}, Basic cfg w w' c → w'.hdr c = w.hdr c → E w') :
    (∀ pos, pos < (w.hdr c).size → (eraseAt cfg c pos w).sat (fun _ => Q) (fun _ => E)) ∧
    (∀ p q, p ≤ q → q ≤ (w.hdr c).size → (eraseRange cfg c p q w).sat (fun _ => Q) (fun _ => E)) ∧
    (∀ E', 0 < (w.hdr c).size → (eraseLast cfg c w).sat (fun _ => Q) E') ∧
    (∀ E', (eraseAll cfg c w).sat (fun _ => Q) E') :=
  ⟨fun pos hpos => Res.sat_mono (hp.use (eraseAt_sat cfg c pos w) hpos) (fun _ _ h => hQ h.2) (fun _ _ h => hE h.2.1 h.2.2),
   fun p q h1 h2 => Res.sat_mono (hp.use (eraseRange_sat cfg c p q w) h1 h2) (fun _ _ h => hQ h.2) (fun _ _ h => hE h.2.1 h.2.2),
   fun _ hne => Res.sat_mono (hp.use (eraseLast_sat cfg c w) hne) (fun _ _ h => hQ h) (fun _ _ h => h.elim),
   fun _ => Res.sat_mono (hp.use (eraseAll_sat cfg c w)) (fun _ _ h => hQ h) (fun _ _ h => h.elim)⟩
end

namespace C01
/-- push_back(x) / emplace_back(x): contents become `xs ++ [x]`; returns (a reference to) position `size` -/
theorem push_back_refines (cfg : Cfg) (c : Nat) (s : Src α) (w w' : World α) (r : Nat) (xs : List (Val α))
    (hp : Pre cfg w c) (ha : ArgOK cfg w c s) (hpol : StrongPolicy cfg) (hx : Holds w c xs)
    (hr : appendElement cfg c s w = .ok r w') :
    Holds w' c (L0.pushBack xs (srcVal w s)) ∧ r = xs.length := by
  have h := sat_of_ok (hp.use (appendElement_sat cfg c _ w) hp.nmax ha hpol) hr
  exact ⟨h.2.holds xs hx, by rw [h.1, hx.1]⟩

theorem pop_back_refines (cfg : Cfg) (c : Nat) (w w' : World α) (xs : List (Val α))
    (hp : Pre cfg w c) (hne : 0 < (w.hdr c).size) (hx : Holds w c xs) (hr : eraseLast cfg c w = .ok () w') :
    Holds w' c (L0.popBack xs) :=
  (sat_of_ok (hp.use (eraseLast_sat cfg c w) hne) hr).holds xs hx

theorem erase_refines (cfg : Cfg) (c pos : Nat) (w w' : World α) (r : Nat) (xs : List (Val α))
    (hp : Pre cfg w c) (hpos : pos < (w.hdr c).size) (hx : Holds w c xs) (hr : eraseAt cfg c pos w = .ok r w') :
    Holds w' c (L0.eraseAt xs pos).1 ∧ r = (L0.eraseAt xs pos).2 := by
  have h := sat_of_ok (hp.use (eraseAt_sat cfg c pos w) hpos) hr
  exact ⟨h.2.holds xs hx, h.1⟩

theorem erase_range_refines (cfg : Cfg) (c p q : Nat) (w w' : World α) (r : Nat) (xs : List (Val α))
    (hp : Pre cfg w c) (h1 : p ≤ q) (h2 : q ≤ (w.hdr c).size) (hx : Holds w c xs) (hr : eraseRange cfg c p q w = .ok r w') :
    Holds w' c (L0.eraseRange xs p q).1 ∧ r = (L0.eraseRange xs p q).2 := by
  have h := sat_of_ok (hp.use (eraseRange_sat cfg c p q w) h1 h2) hr
  exact ⟨h.2.holds xs hx, h.1⟩

theorem clear_refines (cfg : Cfg) (c : Nat) (w w' : World α) (xs : List (Val α))
    (hp : Pre cfg w c) (hx : Holds w c xs) (hr : eraseAll cfg c w = .ok () w') :
    Holds w' c (L0.clear xs) :=
  (sat_of_ok (hp.use (eraseAll_sat cfg c w)) hr).holds xs hx

/-- reserve / shrink_to_fit keep the contents -/
theorem reserve_refines (cfg : Cfg) (c n : Nat) (w w' : World α) (xs : List (Val α))
    (hp : Pre cfg w c) (hpol : StrongPolicy cfg) (hx : Holds w c xs) (hr : requestCapacity cfg c n w = .ok () w') :
    Holds w' c xs :=
  (sat_of_ok (hp.use (requestCapacity_sat cfg c n w) hpol) hr).1.holds xs hx

theorem shrink_to_fit_refines (cfg : Cfg) (c : Nat) (w w' : World α) (xs : List (Val α))
    (hp : Pre cfg w c) (hpol : StrongPolicy cfg) (hx : Holds w c xs) (hr : shrinkToSize cfg c w = .ok () w') :
    Holds w' c xs :=
  (sat_of_ok (hp.use (shrinkToSize_sat cfg c w) hp.nmax hpol) hr).1.holds xs hx

/-- resize(n, x) (x may alias an own element; value-initialisation is the source `.value`) -/
theorem resize_refines (cfg : Cfg) (c n : Nat) (s : Src α) (w w' : World α) (xs : List (Val α))
    (hp : Pre cfg w c) (ha : ArgOK cfg w c s) (hpol : StrongPolicy cfg) (hx : Holds w c xs)
    (hr : resizeWith cfg c n s w = .ok () w') :
    Holds w' c (L0.resize xs n (srcVal w s)) :=
  (sat_of_ok (hp.use (resizeWith_sat cfg c n _ w) ha hpol) hr).holds xs hx

/-- append(first, last) over a multi-pass range of external values -/
theorem append_range_refines (cfg : Cfg) (c : Nat) (vs : List α) (w w' : World α) (r : Nat) (xs : List (Val α))
    (hp : Pre cfg w c) (hpol : StrongPolicy cfg) (hx : Holds w c xs)
    (hr : appendRangeFwd cfg c true (vs.map Src.ext) w = .ok r w') :
    Holds w' c (L0.append xs (vs.map Val.val)) ∧ r = xs.length := by
  have h := sat_of_ok (hp.sat_appendRangeFwd true vs hpol) hr
  exact ⟨h.2.holds xs hx, by rw [h.1, hx.1]⟩

/-- insert(end(), n, x) -/
theorem insert_n_at_end_refines (cfg : Cfg) (c n : Nat) (s : Src α) (w w' : World α) (r : Nat) (xs : List (Val α))
    (hp : Pre cfg w c) (ha : ArgOK cfg w c s) (hx : Holds w c xs) (hr : appendCopies cfg c n s w = .ok r w') :
    Holds w' c (L0.insertN xs xs.length n (srcVal w s)).1 ∧ r = (L0.insertN xs xs.length n (srcVal w s)).2 := by
  have h := sat_of_ok (hp.use (appendCopies_sat cfg c n s w) hp.nmax ha) hr
  refine ⟨?_, by rw [h.1, hx.1]; rfl⟩
  have := h.2.holds xs hx
  simpa [L0.insertN] using this
end C01

namespace C02
/-- storage invariants after push_back, on normal return AND after a throw, for every fault list -/
theorem push_back_inv (cfg : Cfg) (c : Nat) (s : Src α) (w : World α)
    (hp : Pre cfg w c) (ha : ArgOK cfg w c s) (hpol : StrongPolicy cfg) :
    (appendElement cfg c s w).sat (fun _ w' => VecOK cfg w' c) (fun _ w' => VecOK cfg w' c) :=
  Res.sat_mono (hp.use (appendElement_sat cfg c _ w) hp.nmax ha hpol) (fun _ _ h => h.2.vec)
    (fun _ _ h => h.vecOK hp.led hp.vec)

theorem pop_back_inv (cfg : Cfg) (c : Nat) (w : World α) (hp : Pre cfg w c) (hne : 0 < (w.hdr c).size) :
    (eraseLast cfg c w).sat (fun _ w' => VecOK cfg w' c) (fun _ w' => VecOK cfg w' c) :=
  (hp.erase_family (fun h => h.basic.vec) (fun h _ => h.vec)).2.2.1 _ hne

theorem erase_inv (cfg : Cfg) (c pos : Nat) (w : World α) (hp : Pre cfg w c) (hpos : pos < (w.hdr c).size) :
    (eraseAt cfg c pos w).sat (fun _ w' => VecOK cfg w' c) (fun _ w' => VecOK cfg w' c) :=
  (hp.erase_family (fun h => h.basic.vec) (fun h _ => h.vec)).1 pos hpos

theorem erase_range_inv (cfg : Cfg) (c p q : Nat) (w : World α) (hp : Pre cfg w c) (h1 : p ≤ q) (h2 : q ≤ (w.hdr c).size) :
    (eraseRange cfg c p q w).sat (fun _ w' => VecOK cfg w' c) (fun _ w' => VecOK cfg w' c) :=
  (hp.erase_family (fun h => h.basic.vec) (fun h _ => h.vec)).2.1 p q h1 h2

theorem clear_inv (cfg : Cfg) (c : Nat) (w : World α) (hp : Pre cfg w c) :
    (eraseAll cfg c w).sat (fun _ w' => VecOK cfg w' c) (fun _ w' => VecOK cfg w' c) :=
  (hp.erase_family (fun h => h.basic.vec) (fun h _ => h.vec)).2.2.2 _

/-- the clauses of the property, read off `VecOK` -/
theorem inv_clauses (cfg : Cfg) (w : World α) (c : Nat) (h : VecOK cfg w c) :
    (w.hdr c).size ≤ (w.hdr c).cap ∧ (w.hdr c).cap ≤ max cfg.maxSize (w.hdr c).N ∧ (w.hdr c).N ≤ (w.hdr c).cap ∧
    ((w.hdr c).cap = (w.hdr c).N ↔ (w.hdr c).data = (w.hdr c).inl) ∧
    ((w.hdr c).data ≠ (w.hdr c).inl →
        (w.hdr c).data ∈ w.live ∧ (w.mem (w.hdr c).data).length = (w.hdr c).cap ∧ w.owner (w.hdr c).data = (w.hdr c).alloc) :=
  ⟨h.size_le, h.cap_max, h.cap_ge, h.inl_iff, fun hne => ⟨(h.heap hne).1, h.len, (h.heap hne).2⟩⟩

theorem reserve_inv (cfg : Cfg) (c n : Nat) (w : World α) (hp : Pre cfg w c) (hpol : StrongPolicy cfg) :
    (requestCapacity cfg c n w).sat (fun _ w' => VecOK cfg w' c ∧ n ≤ (w'.hdr c).cap) (fun _ w' => VecOK cfg w' c) :=
  Res.sat_mono (hp.use (requestCapacity_sat cfg c n w) hpol) (fun _ _ h => ⟨h.1.basic.vec, h.2.1⟩)
    (fun _ _ h => h.vecOK hp.led hp.vec)

/-- after a successful shrink_to_fit, capacity = max(size, N): a container whose contents fit returns to its inline buffer -/
theorem shrink_to_fit_post (cfg : Cfg) (c : Nat) (w w' : World α) (hp : Pre cfg w c) (hpol : StrongPolicy cfg)
    (hr : shrinkToSize cfg c w = .ok () w') :
    VecOK cfg w' c ∧ (w'.hdr c).cap = max (w.hdr c).size (w.hdr c).N ∧
    ((w.hdr c).size ≤ (w.hdr c).N → (w'.hdr c).data = (w'.hdr c).inl) := by
  have h := sat_of_ok (hp.use (shrinkToSize_sat cfg c w) hp.nmax hpol) hr
  refine ⟨h.1.basic.vec, h.2, fun hle => ?_⟩
  apply (h.1.basic.vec.inl_iff).mp
  rw [h.2, h.1.basic.frame.hdr_N, Nat.max_eq_right hle]

theorem shrink_to_fit_inv (cfg : Cfg) (c : Nat) (w : World α) (hp : Pre cfg w c) (hpol : StrongPolicy cfg) :
    (shrinkToSize cfg c w).sat (fun _ w' => VecOK cfg w' c) (fun _ w' => VecOK cfg w' c) :=
  Res.sat_mono (hp.use (shrinkToSize_sat cfg c w) hp.nmax hpol) (fun _ _ h => h.1.basic.vec) (fun _ _ h => h.vecOK hp.led hp.vec)

theorem resize_inv (cfg : Cfg) (c n : Nat) (s : Src α) (w : World α) (hp : Pre cfg w c) (ha : ArgOK cfg w c s) (hpol : StrongPolicy cfg) :
    (resizeWith cfg c n s w).sat (fun _ w' => VecOK cfg w' c ∧ (w'.hdr c).size = n) (fun _ w' => VecOK cfg w' c) :=
  Res.sat_mono (hp.use (resizeWith_sat cfg c n _ w) ha hpol) (fun _ _ h => ⟨h.basic.vec, h.size⟩) (fun _ _ h => h.vecOK hp.led hp.vec)

theorem append_range_inv (cfg : Cfg) (c : Nat) (strong : Bool) (vs : List α) (w : World α) (hp : Pre cfg w c) (hpol : StrongPolicy cfg) :
    (appendRangeFwd cfg c strong (vs.map Src.ext) w).sat (fun _ w' => VecOK cfg w' c) (fun _ w' => VecOK cfg w' c) :=
  Res.sat_mono (hp.sat_appendRangeFwd strong vs hpol)
    (fun _ _ h => h.2.basic.vec) (fun _ _ h => h.2.1.vec)
end C02

namespace C03
/-- no operation constructs over a live element or touches dead storage: the UB log stays empty, in both outcomes,
    and afterwards exactly the slots [0, size) of the buffer hold live objects (that is `VecOK.objs` / `VecOK.raws`) -/
theorem push_back_no_ub (cfg : Cfg) (c : Nat) (s : Src α) (w : World α)
    (hp : Pre cfg w c) (ha : ArgOK cfg w c s) (hpol : StrongPolicy cfg) :
    (appendElement cfg c s w).sat (fun _ w' => w'.ub = []) (fun _ w' => w'.ub = []) :=
  Res.sat_mono (hp.use (appendElement_sat cfg c _ w) hp.nmax ha hpol) (fun _ _ h => h.2.ub.trans hp.ub)
    (fun _ _ h => h.ub.trans hp.ub)

theorem erase_family_no_ub (cfg : Cfg) (c : Nat) (w : World α) (hp : Pre cfg w c) :
    (∀ pos, pos < (w.hdr c).size → (eraseAt cfg c pos w).sat (fun _ w' => w'.ub = []) (fun _ w' => w'.ub = [])) ∧
    (∀ p q, p ≤ q → q ≤ (w.hdr c).size → (eraseRange cfg c p q w).sat (fun _ w' => w'.ub = []) (fun _ w' => w'.ub = [])) ∧
    (0 < (w.hdr c).size → (eraseLast cfg c w).sat (fun _ w' => w'.ub = []) (fun _ w' => w'.ub = [])) ∧
    (eraseAll cfg c w).sat (fun _ w' => w'.ub = []) (fun _ w' => w'.ub = []) := by
  have h := hp.erase_family (Q := fun w' => w'.ub = []) (E := fun w' => w'.ub = [])
    (fun h => h.basic.ub.trans hp.ub) (fun h _ => h.ub.trans hp.ub)
  exact ⟨h.1, h.2.1, h.2.2.1 _, h.2.2.2 _⟩

/-- the live objects of a valid container are exactly its first `size` slots -/
theorem live_split (cfg : Cfg) (w : World α) (c : Nat) (h : VecOK cfg w c) (i : Nat) (hi : i < (w.hdr c).cap) :
    (IsObj w (w.hdr c).data i ↔ i < (w.hdr c).size) := by
  constructor
  · intro ho
    by_cases hlt : i < (w.hdr c).size
    · exact hlt
    · exact (not_obj_and_raw ho (h.raws i (by omega) hi)).elim
  · exact h.objs i
end C03

namespace C04
/-- the allocator ledger stays consistent through push_back in both outcomes, and a push_back that fits in the
    current capacity never calls allocate (`next` is bumped by every allocate, so `next` unchanged = no allocation) -/
theorem push_back_ledger (cfg : Cfg) (c : Nat) (s : Src α) (w : World α)
    (hp : Pre cfg w c) (ha : ArgOK cfg w c s) (hpol : StrongPolicy cfg) :
    (appendElement cfg c s w).sat
      (fun _ w' => Ledger w' ∧ ((w.hdr c).size < (w.hdr c).cap → w'.next = w.next ∧ w'.live = w.live))
      (fun _ w' => Ledger w' ∧ w'.live = w.live) :=
  Res.sat_mono (hp.use (appendElement_sat cfg c _ w) hp.nmax ha hpol)
    (fun _ _ h => ⟨h.2.led, fun hlt => ⟨(h.2.inplace hlt).2.2.1, (h.2.inplace hlt).2.2.2.1⟩⟩)
    (fun _ _ h => ⟨h.led, h.live⟩)

/-- pop_back, erase, clear never touch the allocator -/
theorem erase_family_no_alloc (cfg : Cfg) (c : Nat) (w : World α) (hp : Pre cfg w c) :
    (∀ pos, pos < (w.hdr c).size → (eraseAt cfg c pos w).sat (fun _ w' => w'.next = w.next ∧ w'.live = w.live ∧ Ledger w') (fun _ w' => Ledger w')) ∧
    (∀ p q, p ≤ q → q ≤ (w.hdr c).size → (eraseRange cfg c p q w).sat (fun _ w' => w'.next = w.next ∧ w'.live = w.live ∧ Ledger w') (fun _ w' => Ledger w')) ∧
    (0 < (w.hdr c).size → (eraseLast cfg c w).sat (fun _ w' => w'.next = w.next ∧ w'.live = w.live ∧ Ledger w') (fun _ _ => False)) ∧
    (eraseAll cfg c w).sat (fun _ w' => w'.next = w.next ∧ w'.live = w.live ∧ Ledger w') (fun _ _ => False) := by
  have h := hp.erase_family (Q := fun w' => w'.next = w.next ∧ w'.live = w.live ∧ Ledger w') (E := fun w' => Ledger w')
    (fun h => ⟨h.noalloc.1, h.noalloc.2, h.basic.led⟩) (fun h _ => h.led)
  exact ⟨h.1, h.2.1, h.2.2.1 _, h.2.2.2 _⟩
end C04

namespace C05
/-- STRONG GUARANTEE of push_back / emplace_back: whatever throws (the new element's constructor, a relocating copy,
    the allocator — at any fault index), the container holds the same values (none moved-from), has the same header
    (size, capacity, data pointer), every block that existed is unchanged, and nothing leaked -/
theorem push_back_strong (cfg : Cfg) (c : Nat) (s : Src α) (w w' : World α) (e : Exc) (xs : List (Val α))
    (hp : Pre cfg w c) (ha : ArgOK cfg w c s) (hpol : StrongPolicy cfg) (hx : Holds w c xs)
    (hr : appendElement cfg c s w = .thrown e w') :
    Holds w' c xs ∧ w'.hdr c = w.hdr c ∧ w'.live = w.live ∧ VecOK cfg w' c ∧ Ledger w' ∧
    (∀ b, b < w.next → b % 2 = 1 ∨ b < 5 → w'.mem b = w.mem b) := by
  have h := sat_of_thrown (hp.use (appendElement_sat cfg c _ w) hp.nmax ha hpol) hr
  exact ⟨h.holds hp.led hp.vec hx, by rw [h.hdr], h.live, h.vecOK hp.led hp.vec, h.led, h.mem⟩

/-- non-vacuity: on the concrete full inline container [1, 2] with faults = [1] the reallocating push_back really throws
    (the relocating copy of the first element fails) and the hypotheses are satisfiable -/
example : (match appendElement Ex.cfgT 0 (.ext 9) { Ex.w0 with faults := [1] } with
           | .thrown e w' => decide (e = .elem) && w'.live == [] && w'.mem 0 == [.obj (.val 1), .obj (.val 2)] && w'.mem 5 == []
           | .ok _ _ => false) = true := by decide
example : Pre Ex.cfgT Ex.w0 0 := ⟨Ex.w0_vec, Ex.w0_ledger, by decide, rfl⟩
example : StrongPolicy Ex.cfgT := by intro h; revert h; decide

/-- reserve, shrink_to_fit, resize and append(first, last): a throw leaves the world observably unchanged -/
theorem reserve_strong (cfg : Cfg) (c n : Nat) (w w' : World α) (e : Exc) (hp : Pre cfg w c) (hpol : StrongPolicy cfg)
    (hr : requestCapacity cfg c n w = .thrown e w') : Strong w w' :=
  sat_of_thrown (hp.use (requestCapacity_sat cfg c n w) hpol) hr

theorem shrink_to_fit_strong (cfg : Cfg) (c : Nat) (w w' : World α) (e : Exc) (hp : Pre cfg w c) (hpol : StrongPolicy cfg)
    (hr : shrinkToSize cfg c w = .thrown e w') : Strong w w' :=
  sat_of_thrown (hp.use (shrinkToSize_sat cfg c w) hp.nmax hpol) hr

theorem resize_strong (cfg : Cfg) (c n : Nat) (s : Src α) (w w' : World α) (e : Exc) (hp : Pre cfg w c) (ha : ArgOK cfg w c s)
    (hpol : StrongPolicy cfg) (hr : resizeWith cfg c n s w = .thrown e w') : Strong w w' :=
  sat_of_thrown (hp.use (resizeWith_sat cfg c n _ w) ha hpol) hr

theorem append_range_strong (cfg : Cfg) (c : Nat) (vs : List α) (w w' : World α) (e : Exc) (hp : Pre cfg w c) (hpol : StrongPolicy cfg)
    (hr : appendRangeFwd cfg c true (vs.map Src.ext) w = .thrown e w') : Strong w w' :=
  (sat_of_thrown (hp.sat_appendRangeFwd true vs hpol) hr).1 rfl

/-- what `Strong` means for the container: same values (none moved-from), same size / capacity / data pointer, nothing leaked -/
theorem strong_observably_unchanged (cfg : Cfg) (c : Nat) (w w' : World α) (xs : List (Val α)) (hp : Pre cfg w c)
    (hs : Strong w w') (hx : Holds w c xs) :
    Holds w' c xs ∧ w'.hdr c = w.hdr c ∧ w'.live = w.live ∧ VecOK cfg w' c ∧ Ledger w' :=
  ⟨hs.holds hp.led hp.vec hx, by rw [hs.hdr], hs.live, hs.vecOK hp.led hp.vec, hs.led⟩
end C05

namespace C06
/-- basic guarantee: a throw out of erase / erase(range) (a throwing move assignment) leaves a valid container with
    the same size, capacity and buffer, an intact ledger and nothing else touched -/
theorem erase_basic (cfg : Cfg) (c pos : Nat) (w w' : World α) (e : Exc)
    (hp : Pre cfg w c) (hpos : pos < (w.hdr c).size) (hr : eraseAt cfg c pos w = .thrown e w') :
    Basic cfg w w' c ∧ w'.hdr c = w.hdr c := (sat_of_thrown (hp.use (eraseAt_sat cfg c pos w) hpos) hr).2

theorem erase_range_basic (cfg : Cfg) (c p q : Nat) (w w' : World α) (e : Exc)
    (hp : Pre cfg w c) (h1 : p ≤ q) (h2 : q ≤ (w.hdr c).size) (hr : eraseRange cfg c p q w = .thrown e w') :
    Basic cfg w w' c ∧ w'.hdr c = w.hdr c := (sat_of_thrown (hp.use (eraseRange_sat cfg c p q w) h1 h2) hr).2

theorem push_back_basic (cfg : Cfg) (c : Nat) (s : Src α) (w w' : World α) (e : Exc)
    (hp : Pre cfg w c) (ha : ArgOK cfg w c s) (hpol : StrongPolicy cfg) (hr : appendElement cfg c s w = .thrown e w') :
    Basic cfg w w' c :=
  (sat_of_thrown (hp.use (appendElement_sat cfg c _ w) hp.nmax ha hpol) hr).basic hp.led hp.vec

/-- "usable afterwards": `Basic` re-establishes exactly the hypotheses (`Pre`) of every operation theorem -/
theorem usable_after_throw (cfg : Cfg) (c : Nat) (w w' : World α) (hp : Pre cfg w c) (hb : Basic cfg w w' c) : Pre cfg w' c :=
  ⟨hb.vec, hb.led, by rw [hb.frame.hdr_N]; exact hp.nmax, by rw [hb.ub]; exact hp.ub⟩
end C06

namespace C10
/-- push_back into spare capacity: capacity and data pointer unchanged, every existing element untouched;
    pop_back / erase / clear never change capacity or data pointer -/
theorem push_back_in_place (cfg : Cfg) (c : Nat) (s : Src α) (w w' : World α) (r : Nat)
    (hp : Pre cfg w c) (ha : ArgOK cfg w c s) (hpol : StrongPolicy cfg) (hfit : (w.hdr c).size < (w.hdr c).cap)
    (hr : appendElement cfg c s w = .ok r w') :
    (w'.hdr c).data = (w.hdr c).data ∧ (w'.hdr c).cap = (w.hdr c).cap ∧
    ∀ i, i < (w.hdr c).size → (w'.mem (w.hdr c).data)[i]? = (w.mem (w.hdr c).data)[i]? := by
  have h := (sat_of_ok (hp.use (appendElement_sat cfg c _ w) hp.nmax ha hpol) hr).2.inplace hfit
  exact ⟨h.1, h.2.1, h.2.2.2.2⟩

theorem erase_family_stable (cfg : Cfg) (c : Nat) (w : World α) (hp : Pre cfg w c) :
    (∀ pos, pos < (w.hdr c).size → (eraseAt cfg c pos w).sat
        (fun _ w' => (w'.hdr c).data = (w.hdr c).data ∧ (w'.hdr c).cap = (w.hdr c).cap)
        (fun _ w' => (w'.hdr c).data = (w.hdr c).data ∧ (w'.hdr c).cap = (w.hdr c).cap)) ∧
    (∀ p q, p ≤ q → q ≤ (w.hdr c).size → (eraseRange cfg c p q w).sat
        (fun _ w' => (w'.hdr c).data = (w.hdr c).data ∧ (w'.hdr c).cap = (w.hdr c).cap)
        (fun _ w' => (w'.hdr c).data = (w.hdr c).data ∧ (w'.hdr c).cap = (w.hdr c).cap)) ∧
    (0 < (w.hdr c).size → (eraseLast cfg c w).sat
        (fun _ w' => (w'.hdr c).data = (w.hdr c).data ∧ (w'.hdr c).cap = (w.hdr c).cap) (fun _ _ => False)) ∧
    (eraseAll cfg c w).sat (fun _ w' => (w'.hdr c).data = (w.hdr c).data ∧ (w'.hdr c).cap = (w.hdr c).cap) (fun _ _ => False) := by
  have h := hp.erase_family (Q := fun w' => (w'.hdr c).data = (w.hdr c).data ∧ (w'.hdr c).cap = (w.hdr c).cap)
    (E := fun w' => (w'.hdr c).data = (w.hdr c).data ∧ (w'.hdr c).cap = (w.hdr c).cap)
    (fun h => ⟨h.data, h.cap⟩) (fun _ h => by rw [h]; exact ⟨rfl, rfl⟩)
  exact ⟨h.1, h.2.1, h.2.2.1 _, h.2.2.2 _⟩

/-- reserve(n): capacity ≥ n afterwards; a no-op (nothing at all changes) when n ≤ capacity -/
theorem reserve_post (cfg : Cfg) (c n : Nat) (w w' : World α) (hp : Pre cfg w c) (hpol : StrongPolicy cfg)
    (hr : requestCapacity cfg c n w = .ok () w') :
    n ≤ (w'.hdr c).cap ∧ (n ≤ (w.hdr c).cap → w'.hdr = w.hdr ∧ w'.mem = w.mem ∧ w'.next = w.next ∧ w'.live = w.live) := by
  have h := sat_of_ok (hp.use (requestCapacity_sat cfg c n w) hpol) hr
  exact ⟨h.2.1, h.2.2.1⟩

/-- resize / append that fit in the capacity: same buffer, same capacity, no allocation -/
theorem resize_in_place (cfg : Cfg) (c n : Nat) (s : Src α) (w w' : World α) (hp : Pre cfg w c) (ha : ArgOK cfg w c s)
    (hpol : StrongPolicy cfg) (hfit : n ≤ (w.hdr c).cap) (hr : resizeWith cfg c n s w = .ok () w') :
    (w'.hdr c).data = (w.hdr c).data ∧ (w'.hdr c).cap = (w.hdr c).cap ∧ w'.next = w.next ∧ w'.live = w.live :=
  (sat_of_ok (hp.use (resizeWith_sat cfg c n _ w) ha hpol) hr).fits hfit

theorem append_range_in_place (cfg : Cfg) (c : Nat) (vs : List α) (w w' : World α) (r : Nat) (hp : Pre cfg w c) (hpol : StrongPolicy cfg)
    (hfit : (w.hdr c).size + vs.length ≤ (w.hdr c).cap) (hr : appendRangeFwd cfg c true (vs.map Src.ext) w = .ok r w') :
    (w'.hdr c).data = (w.hdr c).data ∧ (w'.hdr c).cap = (w.hdr c).cap ∧ w'.next = w.next ∧ w'.live = w.live ∧
    ∀ i, i < (w.hdr c).size → (w'.mem (w.hdr c).data)[i]? = (w.mem (w.hdr c).data)[i]? := by
  have h := (sat_of_ok (hp.sat_appendRangeFwd true vs hpol) hr).2
  exact h.inplace (by rw [List.length_map]; exact hfit)
end C10

namespace C11
/-- push_back(v[i]) with an lvalue referring to the container's own element `i` gives exactly what push_back of an
    independent copy of that element gives — reallocating or not -/
theorem push_back_alias (cfg : Cfg) (c i : Nat) (w w' : World α) (r : Nat) (xs : List (Val α))
    (hp : Pre cfg w c) (hpol : StrongPolicy cfg) (hx : Holds w c xs) (hi : i < xs.length)
    (hr : appendElement cfg c (.copyOf (w.hdr c).data i) w = .ok r w') :
    Holds w' c (L0.pushBack xs xs[i]) := by
  obtain ⟨ha, hv⟩ := hx.self_src (cfg := cfg) hi
  exact hv ▸ (sat_of_ok (hp.use (appendElement_sat cfg c _ w) hp.nmax ha hpol) hr).2.holds xs hx

/-- non-vacuity: aliasing push_back on the full inline container [1, 2] reallocates and yields [1, 2, 1] -/
example : (match appendElement Ex.cfgT 0 (.copyOf 0 0) Ex.w0 with
           | .ok r w' => r == 2 && (w'.mem (w'.hdr 0).data).take 3 == [.obj (.val 1), .obj (.val 2), .obj (.val 1)]
           | .thrown _ _ => false) = true := by decide +kernel

/-- resize(n, v[i]) behaves as resize(n, copy of v[i]) — reallocating or not -/
theorem resize_alias (cfg : Cfg) (c n i : Nat) (w w' : World α) (xs : List (Val α))
    (hp : Pre cfg w c) (hpol : StrongPolicy cfg) (hx : Holds w c xs) (hi : i < xs.length)
    (hr : resizeWith cfg c n (.copyOf (w.hdr c).data i) w = .ok () w') :
    Holds w' c (L0.resize xs n xs[i]) := by
  obtain ⟨ha, hv⟩ := hx.self_src (cfg := cfg) hi
  exact hv ▸ (sat_of_ok (hp.use (resizeWith_sat cfg c n _ w) ha hpol) hr).holds xs hx
end C11

end SvModel
