/-
Histories — the per-operation theorems lifted to EVERY finite call history (the quantifier of C01, C02, C03, C05, C06).

`SOp` is the single-container sub-language whose operations have refinement theorems (it grows with the proof
families): push_back (of an outside value or of the container's own element i), pop_back, erase, erase(range), clear,
reserve, shrink_to_fit, resize(n), resize(n, v), append(range), insert(end, n, v), insert(pos, v) / emplace(pos, v),
insert(pos, T&&), insert(pos, v[i]), assign(n, v), assign(first, last),
insert(pos, n, v) (also with v = own element), insert(pos, first, last).  A history is a list of (operation,
fault list): the fault list is installed before the call, the call returns or throws, and the history continues from
the world the call left behind — exactly how the harness drives the real container.

 * `reachable_inv`   every state reached by a valid history from a state satisfying `Pre` (VecOK ∧ Ledger ∧ ub = [])
                     satisfies `Pre` again: the storage invariants (C02), the object-lifetime discipline (C03: `ub = []`,
                     objects exactly in [0, size)), the ledger (C04) hold after every call, returned or thrown (C06).
 * `history_refines` along a valid history in which every throwing call is one with the strong guarantee, the contents
                     are `specHist` — the L0 (std::vector) functions folded over the calls that returned, calls that
                     threw contributing nothing (C01 + C05).
 * `history_tracks`  without that restriction: after every call there is a value list the container holds, it is the L0
                     result if the call returned and the old list if a strong call threw.
-/
import SvModel.Properties.Core
import SvModel.Properties.InsertProps
import SvModel.Properties.AssignProps
import SvModel.Proofs.InputAssign

namespace SvModel
open Gen
variable {α : Type} {cfg : Cfg} {w : World α} {c : Nat}

/-- `Holds.self_src` with the value spelled the way the call language spells "element `i`" -/
theorem Holds.self_src_getD {xs : List (Val α)} {i : Nat} (hx : Holds w c xs) (hi : i < xs.length) :
    ArgOK cfg w c (.copyOf (w.hdr c).data i) ∧ srcVal w (.copyOf (w.hdr c).data i) = xs.getD i .husk := by
  obtain ⟨ha, hv⟩ := hx.self_src (cfg := cfg) hi
  exact ⟨ha, by rw [hv, List.getD_eq_getElem?_getD, List.getElem?_eq_getElem hi]; rfl⟩

theorem Holds.readSlot {xs : List (Val α)} {i : Nat} (hx : Holds w c xs) (hi : i < xs.length) :
    readSlot (w.hdr c).data i w = .ok xs[i] w := by
  unfold SvModel.readSlot; rw [hx.2 i hi]

/-! the invariants do not read the fault list -/
theorem Ledger.faults (h : Ledger w) (f : List Nat) : Ledger { w with faults := f } :=
  ⟨h.next_ok, h.ntmp_ok, h.live_ok, h.nodup, h.freed, h.tmpfresh⟩

theorem VecOK.faults (h : VecOK cfg w c) (f : List Nat) : VecOK cfg { w with faults := f } c :=
  ⟨h.size_le, h.cap_ge, h.cap_max, h.inl_iff, h.inl_lt, h.len, h.objs, h.raws, h.heap, h.idle⟩

end SvModel

namespace SvModel.History
open SvModel Gen
variable {α : Type}

inductive SOp (α : Type) where
  | pushBack (v : α) | pushBackMove (v : α) | pushBackSelf (i : Nat) | popBack | erase (p : Nat) | eraseRange (p q : Nat) | clear
  | reserve (n : Nat) | shrinkToFit | resize (n : Nat) (dflt : α) | resizeVal (n : Nat) (v : α)
  | append (vs : List α) | insertEndN (n : Nat) (v : α)
  | insert (p : Nat) (v : α) | insertMove (p : Nat) (v : α) | insertSelf (p i : Nat)
  | assign (n : Nat) (v : α) | assignRange (vs : List α)
  | insertN (p n : Nat) (v : α) | insertNSelf (p n i : Nat) | insertRange (p : Nat) (vs : List α)
  /- single-pass (input iterator) ranges; `sid` names the stream in the trace.  `appendInput true`: the public append ();
     `appendInput false`: insert (end (), first, last) and the range constructor's loop -/
  | appendInput (strong : Bool) (sid : Nat) (vs : List α) | assignInput (sid : Nat) (vs : List α)
  /- element access: at (i) (out_of_range beyond size (), by the GENERATED test) and operator[] (i) -/
  | atIdx (i : Nat) | index (i : Nat)
  | resizeSelf (n i : Nat)      -- resize (n, v[i])
  deriving DecidableEq

/-- API preconditions, in terms of the current size -/
def SOp.valid (size : Nat) : SOp α → Prop
  | .pushBackSelf i => i < size
  | .popBack => 0 < size
  | .erase p => p < size
  | .eraseRange p q => p ≤ q ∧ q ≤ size
  | .insert p _ | .insertMove p _ => p ≤ size
  | .insertSelf p i => p ≤ size ∧ i < size
  | .insertN p _ _ => p ≤ size
  | .insertNSelf p _ i => p ≤ size ∧ i < size
  | .insertRange p vs => p ≤ size ∧ vs ≠ []
  | .index i => i < size
  | .resizeSelf _ i => i < size
  | _ => True

/-- the model program of the call on container `c` (the aliasing source is resolved against the current buffer) -/
def SOp.run (cfg : Cfg) (c : Nat) (w : World α) : SOp α → M α Unit
  | .pushBack v => appendElement cfg c (.ext v) >>= fun _ => pure ()
  | .pushBackMove v => appendElement cfg c (.extMove v) >>= fun _ => pure ()     -- push_back (T&&) / emplace_back of a prvalue
  | .pushBackSelf i => appendElement cfg c (.copyOf (w.hdr c).data i) >>= fun _ => pure ()
  | .popBack => eraseLast cfg c
  | .erase p => eraseAt cfg c p >>= fun _ => pure ()
  | .eraseRange p q => SvModel.eraseRange cfg c p q >>= fun _ => pure ()
  | .clear => eraseAll cfg c
  | .reserve n => requestCapacity cfg c n
  | .shrinkToFit => shrinkToSize cfg c
  | .resize n d => resizeWith cfg c n (.value d)
  | .resizeVal n v => resizeWith cfg c n (.ext v)
  | .append vs => appendRangeFwd cfg c true (vs.map Src.ext) >>= fun _ => pure ()
  | .insertEndN n v => appendCopies cfg c n (.ext v) >>= fun _ => pure ()
  | .insert p v => emplaceAt cfg c p (.ext v) false >>= fun _ => pure ()
  | .insertMove p v => emplaceAt cfg c p (.extMove v) true >>= fun _ => pure ()
  | .insertSelf p i => emplaceAt cfg c p (.copyOf (w.hdr c).data i) false >>= fun _ => pure ()
  | .assign n v => assignWithCopies cfg c n (.ext v)
  | .assignRange vs => assignWithRangeFwd cfg c (vs.map Src.ext)
  | .insertN p n v => insertCopies cfg c p n (.ext v) >>= fun _ => pure ()
  | .insertNSelf p n i => insertCopies cfg c p n (.copyOf (w.hdr c).data i) >>= fun _ => pure ()
  | .insertRange p vs => insertRangeFwd cfg c p (vs.map Src.ext) >>= fun _ => pure ()
  | .appendInput st sid vs => appendRangeInput cfg c st sid 0 vs >>= fun _ => pure ()
  | .assignInput sid vs => assignWithRangeInput cfg c sid vs
  | .atIdx i => getV c >>= fun v => if guard_at0_0 { size := v.size, pos := i } then throwE .range else readSlot v.data i >>= fun _ => pure ()
  | .index i => getV c >>= fun v => readSlot v.data i >>= fun _ => pure ()
  | .resizeSelf n i => resizeWith cfg c n (.copyOf (w.hdr c).data i)

/-- what std::vector does (Spec/L0.lean) -/
def SOp.spec : SOp α → List (Val α) → List (Val α)
  | .pushBack v, xs => L0.pushBack xs (.val v)
  | .pushBackMove v, xs => L0.pushBack xs (.val v)
  | .pushBackSelf i, xs => L0.pushBack xs (xs.getD i .husk)
  | .popBack, xs => L0.popBack xs
  | .erase p, xs => (L0.eraseAt xs p).1
  | .eraseRange p q, xs => (L0.eraseRange xs p q).1
  | .clear, xs => L0.clear xs
  | .reserve _, xs => xs
  | .shrinkToFit, xs => xs
  | .resize n d, xs => L0.resize xs n (.val d)
  | .resizeVal n v, xs => L0.resize xs n (.val v)
  | .append vs, xs => L0.append xs (vs.map Val.val)
  | .insertEndN n v, xs => (L0.insertN xs xs.length n (.val v)).1
  | .insert p v, xs => (L0.insertAt xs p (.val v)).1
  | .insertMove p v, xs => (L0.insertAt xs p (.val v)).1
  | .insertSelf p i, xs => (L0.insertAt xs p (xs.getD i .husk)).1
  | .assign n v, _ => L0.assignN n (.val v)
  | .assignRange vs, _ => L0.assignRange (vs.map Val.val)
  | .insertN p n v, xs => (L0.insertN xs p n (.val v)).1
  | .insertNSelf p n i, xs => (L0.insertN xs p n (xs.getD i .husk)).1
  | .insertRange p vs, xs => (L0.insertRange xs p (vs.map Val.val)).1
  | .appendInput _ _ vs, xs => L0.append xs (vs.map Val.val)
  | .assignInput _ vs, _ => L0.assignRange (vs.map Val.val)
  | .atIdx _, xs => xs
  | .index _, xs => xs
  | .resizeSelf n i, xs => L0.resize xs n (xs.getD i .husk)

/-- operations with the strong exception guarantee (erase and erase(range) only have the basic one) -/
def SOp.strong : SOp α → Bool
  | .erase _ | .eraseRange _ _ => false
  | .insertEndN _ _ => false     -- insert (end, n, x) is append_copies without the strong policy: basic guarantee
  | .insert _ _ | .insertMove _ _ | .insertSelf _ _ => false   -- strong only at the end position (C05.insert_at_end_strong)
  | .assign _ _ | .assignRange _ => false                      -- basic guarantee (strong only when it reallocates)
  | .insertN _ _ _ | .insertNSelf _ _ _ | .insertRange _ _ => false
  | .appendInput st _ _ => st     -- the public append () erases what it added; insert (end (), …) keeps the prefix
  | .assignInput _ _ => false
  | _ => true

theorem pre_faults {cfg : Cfg} {w : World α} {c : Nat} (hp : Pre cfg w c) (f : List Nat) : Pre cfg { w with faults := f } c :=
  ⟨hp.vec.faults f, hp.led.faults f, hp.nmax, hp.ub⟩

theorem holds_faults {w : World α} {c : Nat} {xs : List (Val α)} (h : Holds w c xs) (f : List Nat) : Holds { w with faults := f } c xs := h

/-- what a call on container `c`, made in world `w` where `c` holds `xs`, owes in its result `r`: in both outcomes the
    container is valid again and everything that is not its own storage is untouched (`Basic`); on return it holds `ys`;
    after a throw, if the call has the strong guarantee, it holds `xs` still -/
def OpSpec (cfg : Cfg) (c : Nat) (w : World α) (xs : List (Val α)) {β : Type} (r : Res (World α) β) (ys : List (Val α))
    (strong : Bool) : Prop :=
  r.sat (fun _ w' => Basic cfg w w' c ∧ Holds w' c ys) (fun _ w' => Basic cfg w w' c ∧ (strong = true → Holds w' c xs))

section
variable {cfg : Cfg} {c : Nat} {w : World α} {xs ys : List (Val α)} {strong : Bool} {β : Type}

/-- the value a call returns plays no role -/
theorem OpSpec.discard {γ : Type} {m : M α β} {f : β → γ} (h : OpSpec cfg c w xs (m w) ys strong) :
    OpSpec cfg c w xs ((m >>= fun b => (pure (f b) : M α γ)) w) ys strong :=
  sat_bind h (fun _ _ h => h) (fun _ _ h => h)

/-- an exit with the world observably unchanged serves both kinds of call -/
theorem _root_.SvModel.Strong.opFail {w' : World α} (hs : Strong w w') (hp : Pre cfg w c) (hx : Holds w c xs) :
    Basic cfg w w' c ∧ (strong = true → Holds w' c xs) :=
  ⟨hs.basic hp.led hp.vec, fun _ => hs.holds hp.led hp.vec hx⟩

/-! One statement per model function, for any admissible source `s`: the calls with an outside value, with an rvalue
    and with the container's own element are instances. -/

theorem appendElement_spec (hp : Pre cfg w c) (hpol : StrongPolicy cfg) (hx : Holds w c xs) {s : Src α} (ha : ArgOK cfg w c s) :
    OpSpec cfg c w xs (appendElement cfg c s w) (L0.pushBack xs (srcVal w s)) true :=
  Res.sat_mono (hp.use (appendElement_sat cfg c s w) hp.nmax ha hpol)
    (fun _ _ h => ⟨⟨h.2.vec, h.2.led, h.2.ub, h.2.frame⟩, h.2.holds xs hx⟩) (fun _ _ h => h.opFail hp hx)

theorem resizeWith_spec (hp : Pre cfg w c) (hpol : StrongPolicy cfg) (hx : Holds w c xs) (n : Nat) {s : Src α} (ha : ArgOK cfg w c s) :
    OpSpec cfg c w xs (resizeWith cfg c n s w) (L0.resize xs n (srcVal w s)) true :=
  Res.sat_mono (hp.use (resizeWith_sat cfg c n s w) ha hpol)
    (fun _ _ h => ⟨h.basic, h.holds xs hx⟩) (fun _ _ h => h.opFail hp hx)

theorem emplaceAt_spec (hp : Pre cfg w c) (hpol : StrongPolicy cfg) (hx : Holds w c xs) {p : Nat} (hpos : p ≤ (w.hdr c).size)
    {s : Src α} (ha : ArgOK cfg w c s) (rv : Bool) (hrv : rv = true → ∃ a, s = .extMove a) :
    OpSpec cfg c w xs (emplaceAt cfg c p s rv w) (L0.insertAt xs p (srcVal w s)).1 false :=
  Res.sat_mono (hp.use (emplaceAt_sat cfg c p s rv w) hp.nmax hpos ha hrv hpol)
    (fun _ _ h => ⟨h.2.1.basic, h.2.1.holds xs hx⟩) (fun _ _ h => ⟨h.1.1, fun h' => by cases h'⟩)

theorem insertCopies_spec (hp : Pre cfg w c) (hpol : StrongPolicy cfg) (hx : Holds w c xs) {p : Nat} (hpos : p ≤ (w.hdr c).size)
    (n : Nat) {s : Src α} (ha : ArgOK cfg w c s) :
    OpSpec cfg c w xs (insertCopies cfg c p n s w) (L0.insertN xs p n (srcVal w s)).1 false :=
  Res.sat_mono (hp.use (insertCopies_sat cfg c p n s w) hp.nmax hpos ha hpol)
    (fun _ _ h => ⟨h.2.1.basic, h.2.1.holds xs hx⟩) (fun _ _ h => ⟨h.1, fun h' => by cases h'⟩)

end

/-- ONE CALL of the single-container language, in the form the system level uses -/
theorem step_opSpec (cfg : Cfg) (c : Nat) (op : SOp α) (w : World α) (xs : List (Val α))
    (hp : Pre cfg w c) (hpol : StrongPolicy cfg) (hx : Holds w c xs) (hv : op.valid (w.hdr c).size) :
    OpSpec cfg c w xs (op.run cfg c w w) (op.spec xs) op.strong := by
  have hlen : xs.length = (w.hdr c).size := hx.1
  have ext : ∀ v, ArgOK cfg w c (.ext v) := fun _ => .of_external rfl rfl
  cases op with
  | pushBack v => exact (appendElement_spec hp hpol hx (ext v)).discard
  | pushBackMove v => exact (appendElement_spec hp hpol hx (.of_external rfl rfl)).discard
  | pushBackSelf i =>
    obtain ⟨ha, hval⟩ := hx.self_src_getD (cfg := cfg) (hlen ▸ hv)
    have h := appendElement_spec hp hpol hx ha
    rw [hval] at h
    exact h.discard
  | popBack =>
    exact Res.sat_mono (eraseLast_sat cfg c w hp.vec hp.led hv) (fun _ _ h => ⟨h.basic, h.holds xs hx⟩) (fun _ _ h => h.elim)
  | erase p =>
    exact OpSpec.discard (Res.sat_mono (eraseAt_sat cfg c p w hp.vec hp.led hv)
      (fun _ _ h => ⟨h.2.basic, h.2.holds xs hx⟩) (fun _ _ h => ⟨h.2.1, fun h' => by cases h'⟩))
  | eraseRange p q =>
    exact OpSpec.discard (Res.sat_mono (SvModel.eraseRange_sat cfg c p q w hp.vec hp.led hv.1 hv.2)
      (fun _ _ h => ⟨h.2.basic, h.2.holds xs hx⟩) (fun _ _ h => ⟨h.2.1, fun h' => by cases h'⟩))
  | clear =>
    exact Res.sat_mono (eraseAll_sat cfg c w hp.vec hp.led) (fun _ _ h => ⟨h.basic, h.holds xs hx⟩) (fun _ _ h => h.elim)
  | reserve n =>
    exact Res.sat_mono (hp.use (requestCapacity_sat cfg c n w) hpol)
      (fun _ _ h => ⟨h.1.basic, h.1.holds xs hx⟩) (fun _ _ h => h.opFail hp hx)
  | shrinkToFit =>
    exact Res.sat_mono (hp.use (shrinkToSize_sat cfg c w) hp.nmax hpol)
      (fun _ _ h => ⟨h.1.basic, h.1.holds xs hx⟩) (fun _ _ h => h.opFail hp hx)
  | resize n d => exact resizeWith_spec hp hpol hx n (.of_external rfl rfl)
  | resizeVal n v => exact resizeWith_spec hp hpol hx n (ext v)
  | resizeSelf n i =>
    obtain ⟨ha, hval⟩ := hx.self_src_getD (cfg := cfg) (hlen ▸ hv)
    have h := resizeWith_spec hp hpol hx n ha
    rw [hval] at h
    exact h
  | append vs =>
    exact OpSpec.discard (Res.sat_mono (hp.sat_appendRangeFwd true vs hpol) (fun _ _ h => ⟨h.2.basic, h.2.holds xs hx⟩) (fun _ _ h => (h.1 rfl).opFail hp hx))
  | insertEndN n v =>
    refine OpSpec.discard (Res.sat_mono (hp.use (appendCopies_sat cfg c n (.ext v) w) hp.nmax (ext v))
      (fun _ _ h => ⟨h.2.basic, ?_⟩) (fun _ _ h => ⟨h.2.1, fun h' => by cases h'⟩))
    -- insert (end (), n, v) is L0's insertN at position `length`
    show Holds _ c (xs.take xs.length ++ List.replicate n (.val v) ++ xs.drop xs.length)
    rw [List.take_length, List.drop_length, List.append_nil]
    exact h.2.holds xs hx
  | insert p v => exact (emplaceAt_spec hp hpol hx hv (ext v) false (fun h => by cases h)).discard
  | insertMove p v => exact (emplaceAt_spec hp hpol hx hv (.of_external rfl rfl) true (fun _ => ⟨v, rfl⟩)).discard
  | insertSelf p i =>
    obtain ⟨ha, hval⟩ := hx.self_src_getD (cfg := cfg) (hlen ▸ hv.2)
    have h := emplaceAt_spec hp hpol hx hv.1 ha false (fun h => by cases h)
    rw [hval] at h
    exact h.discard
  | assign n v =>
    exact Res.sat_mono (hp.use (assignWithCopies_sat cfg c n v w))
      (fun _ _ h => ⟨h.basic, h.holds⟩) (fun _ _ h => ⟨h.1.1, fun h' => by cases h'⟩)
  | assignRange vs =>
    have h := hp.use (assignWithRangeFwd_sat cfg c _ w) (external_ext vs)
    rw [map_srcVal_ext] at h
    exact Res.sat_mono h (fun _ _ h => ⟨h.basic, h.holds⟩) (fun _ _ h => ⟨h.1.1, fun h' => by cases h'⟩)
  | insertN p n v => exact (insertCopies_spec hp hpol hx hv n (ext v)).discard
  | insertNSelf p n i =>
    obtain ⟨ha, hval⟩ := hx.self_src_getD (cfg := cfg) (hlen ▸ hv.2)
    have h := insertCopies_spec hp hpol hx hv.1 n ha
    rw [hval] at h
    exact h.discard
  | insertRange p vs =>
    exact OpSpec.discard (Res.sat_mono (hp.sat_insertRangeFwd hv.1 hv.2 hpol) (fun _ _ h => ⟨h.2.1.basic, h.2.1.holds xs hx⟩) (fun _ _ h => ⟨h.1, fun h' => by cases h'⟩))
  | appendInput st sid vs =>
    -- `appendRangeInput` is the loop started at the current size; its value is dropped twice
    refine OpSpec.discard (m := appendRangeInput cfg c st sid 0 vs) ?_
    show OpSpec cfg c w xs ((appendRangeInputLoop cfg c st (w.hdr c).size sid 0 vs >>= fun _ => pure (w.hdr c).size) w) _ _
    refine OpSpec.discard (Res.sat_mono (hp.use (appendRangeInputLoop_sat cfg c st (w.hdr c).size sid hpol vs 0 w) hp.nmax (Nat.le_refl _))
      (fun _ _ h => ⟨h.1, h.2.1 xs hx⟩) (fun _ w' h => ⟨h.1, fun hs => ?_⟩))
    obtain ⟨k, _, hh, _⟩ := h.2 xs hx
    have hs' : st = true := hs
    rw [hs', if_pos rfl, List.take_of_length_le (Nat.le_of_eq hlen)] at hh
    exact hh
  | assignInput sid vs =>
    exact Res.sat_mono (hp.use (assignWithRangeInput_sat cfg c sid vs w) hp.nmax hpol)
      (fun _ _ h => ⟨h.1, h.2.1 xs hx⟩) (fun _ _ h => ⟨h.1, fun h' => by cases h'⟩)
  | atIdx i =>
    show OpSpec cfg c w xs ((if guard_at0_0 { size := (w.hdr c).size, pos := i } = true then throwE .range
      else readSlot (w.hdr c).data i >>= fun _ => (pure () : M α Unit)) w) xs true
    have eg : guard_at0_0 { size := (w.hdr c).size, pos := i } = decide ((w.hdr c).size ≤ i) := guard_at0_0_eq _
    rw [eg]
    by_cases h : (w.hdr c).size ≤ i
    · rw [if_pos (decide_eq_true h)]; exact ⟨Basic.refl hp.vec hp.led, fun _ => hx⟩
    · rw [if_neg (by simpa using h), bind_run, hx.readSlot (by omega)]; exact ⟨Basic.refl hp.vec hp.led, hx⟩
  | index i =>
    show OpSpec cfg c w xs ((readSlot (w.hdr c).data i >>= fun _ => (pure () : M α Unit)) w) xs true
    rw [bind_run, hx.readSlot (hlen ▸ hv)]; exact ⟨Basic.refl hp.vec hp.led, hx⟩

/-- ONE CALL, frame form: in both outcomes the container is valid again and everything that is not its own storage is
    untouched (`Basic`: VecOK, Ledger, empty UB log, `Frame1` incl. the live-block accounting); contents per L0 on return;
    unchanged when a strong call throws -/
theorem step_basic (cfg : Cfg) (c : Nat) (op : SOp α) (w : World α) (xs : List (Val α))
    (hp : Pre cfg w c) (hpol : StrongPolicy cfg) (hx : Holds w c xs) (hv : op.valid (w.hdr c).size) :
    match op.run cfg c w w with
    | .ok _ w' => Basic cfg w w' c ∧ Holds w' c (op.spec xs)
    | .thrown _ w' => Basic cfg w w' c ∧ (op.strong = true → Holds w' c xs) := by
  have h := step_opSpec cfg c op w xs hp hpol hx hv
  generalize op.run cfg c w w = r at h ⊢
  cases r <;> exact h

instance (size : Nat) (op : SOp α) : Decidable (op.valid size) := by
  cases op <;> unfold SOp.valid <;> exact inferInstance

/-- ONE CALL: invariants re-established in both outcomes; contents per L0 on return; unchanged when a strong call throws -/
theorem step_spec (cfg : Cfg) (c : Nat) (op : SOp α) (w : World α) (xs : List (Val α))
    (hp : Pre cfg w c) (hpol : StrongPolicy cfg) (hx : Holds w c xs) (hv : op.valid (w.hdr c).size) :
    match op.run cfg c w w with
    | .ok _ w' => Pre cfg w' c ∧ Holds w' c (op.spec xs)
    | .thrown _ w' => Pre cfg w' c ∧ (op.strong = true → Holds w' c xs) := by
  have h := step_basic cfg c op w xs hp hpol hx hv
  generalize op.run cfg c w w = r at h ⊢
  cases r <;> exact ⟨C06.usable_after_throw cfg c w _ hp h.1, h.2⟩

/-- one call of a history: install the fault list, run, keep the world (also after a throw) -/
def stepW (cfg : Cfg) (c : Nat) (w : World α) (x : SOp α × List Nat) : Res (World α) Unit :=
  x.1.run cfg c { w with faults := x.2 } { w with faults := x.2 }

def runHist (cfg : Cfg) (c : Nat) : World α → List (SOp α × List Nat) → World α
  | w, [] => w
  | w, x :: h => runHist cfg c (stepW cfg c w x).world h

/-- every call's precondition holds in the state it is made in -/
def ValidHist (cfg : Cfg) (c : Nat) : World α → List (SOp α × List Nat) → Prop
  | _, [] => True
  | w, x :: h => x.1.valid (w.hdr c).size ∧ ValidHist cfg c (stepW cfg c w x).world h

instance (cfg : Cfg) (c : Nat) : ∀ (h : List (SOp α × List Nat)) (w : World α), Decidable (ValidHist cfg c w h)
  | [], _ => isTrue trivial
  | x :: h, w =>
    have := instDecidableValidHist cfg c h (stepW cfg c w x).world
    by unfold ValidHist; exact inferInstance

/-- every call that throws is one with the strong guarantee -/
def ThrowsOnlyStrong (cfg : Cfg) (c : Nat) : World α → List (SOp α × List Nat) → Prop
  | _, [] => True
  | w, x :: h => (match stepW cfg c w x with | .ok _ _ => True | .thrown _ _ => x.1.strong = true) ∧
                 ThrowsOnlyStrong cfg c (stepW cfg c w x).world h

instance (cfg : Cfg) (c : Nat) : ∀ (h : List (SOp α × List Nat)) (w : World α), Decidable (ThrowsOnlyStrong cfg c w h)
  | [], _ => isTrue trivial
  | x :: h, w =>
    have := instDecidableThrowsOnlyStrong cfg c h (stepW cfg c w x).world
    have : Decidable (match stepW cfg c w x with | .ok _ _ => True | .thrown _ _ => x.1.strong = true) := by
      cases stepW cfg c w x <;> exact inferInstance
    by unfold ThrowsOnlyStrong; exact inferInstance

/-- the std::vector side: fold the L0 functions over the calls that returned -/
def specHist (cfg : Cfg) (c : Nat) : World α → List (SOp α × List Nat) → List (Val α) → List (Val α)
  | _, [], xs => xs
  | w, x :: h, xs =>
    match stepW cfg c w x with
    | .ok _ w' => specHist cfg c w' h (x.1.spec xs)
    | .thrown _ w' => specHist cfg c w' h xs

theorem step_spec' (cfg : Cfg) (c : Nat) (x : SOp α × List Nat) (w : World α) (xs : List (Val α))
    (hp : Pre cfg w c) (hpol : StrongPolicy cfg) (hx : Holds w c xs) (hv : x.1.valid (w.hdr c).size) :
    match stepW cfg c w x with
    | .ok _ w' => Pre cfg w' c ∧ Holds w' c (x.1.spec xs)
    | .thrown _ w' => Pre cfg w' c ∧ (x.1.strong = true → Holds w' c xs) :=
  step_spec cfg c x.1 { w with faults := x.2 } xs (pre_faults hp x.2) hpol (holds_faults hx x.2) hv

/-- C02 / C03 / C04 / C06 over histories: the invariants hold in every reachable state -/
theorem reachable_inv (cfg : Cfg) (c : Nat) (hpol : StrongPolicy cfg) :
    ∀ (h : List (SOp α × List Nat)) (w : World α), Pre cfg w c → ValidHist cfg c w h → Pre cfg (runHist cfg c w h) c
  | [], _, hp, _ => hp
  | x :: h, w, hp, hv => by
    obtain ⟨xs, hx⟩ := hp.vec.holds_exists
    have hs := step_spec' cfg c x w xs hp hpol hx hv.1
    refine reachable_inv cfg c hpol h _ ?_ hv.2
    generalize stepW cfg c w x = r at hs ⊢
    cases r <;> exact hs.1

/-- … including every intermediate state -/
theorem reachable_inv_prefix (cfg : Cfg) (c : Nat) (hpol : StrongPolicy cfg) (h1 h2 : List (SOp α × List Nat)) (w : World α)
    (hp : Pre cfg w c) (hv : ValidHist cfg c w (h1 ++ h2)) : Pre cfg (runHist cfg c w h1) c := by
  have : ∀ (h1 : List (SOp α × List Nat)) (w : World α), ValidHist cfg c w (h1 ++ h2) → ValidHist cfg c w h1 := by
    intro h1
    induction h1 with
    | nil => intro _ _; trivial
    | cons x h ih => intro w hv; exact ⟨hv.1, ih _ hv.2⟩
  exact reachable_inv cfg c hpol h1 w hp (this h1 w hv)

/-- C01 + C05 over histories: the contents are the L0 fold over the calls that returned -/
theorem history_refines (cfg : Cfg) (c : Nat) (hpol : StrongPolicy cfg) :
    ∀ (h : List (SOp α × List Nat)) (w : World α) (xs : List (Val α)), Pre cfg w c → Holds w c xs → ValidHist cfg c w h →
      ThrowsOnlyStrong cfg c w h → Holds (runHist cfg c w h) c (specHist cfg c w h xs)
  | [], _, _, _, hx, _, _ => hx
  | x :: h, w, xs, hp, hx, hv, ht => by
    have hs := step_spec' cfg c x w xs hp hpol hx hv.1
    obtain ⟨ht1, ht2⟩ := ht
    have hv2 := hv.2
    show Holds (runHist cfg c (stepW cfg c w x).world h) c
      (match stepW cfg c w x with | .ok _ w' => specHist cfg c w' h (x.1.spec xs) | .thrown _ w' => specHist cfg c w' h xs)
    generalize stepW cfg c w x = r at hs ht1 ht2 hv2 ⊢
    cases r with
    | ok r w' => exact history_refines cfg c hpol h w' _ hs.1 hs.2 hv2 ht2
    | thrown e w' => exact history_refines cfg c hpol h w' _ hs.1 (hs.2 ht1) hv2 ht2

/-- the L0 specifications of the calls applied in order: the contents after a history in which every call returned -/
def plainSpec : List (SOp α) → List (Val α) → List (Val α)
  | [], xs => xs
  | op :: h, xs => plainSpec h (op.spec xs)

def AllReturned (cfg : Cfg) (c : Nat) : World α → List (SOp α × List Nat) → Prop
  | _, [] => True
  | w, x :: h => (∃ w', stepW cfg c w x = .ok () w') ∧ AllReturned cfg c (stepW cfg c w x).world h

/-- if no call threw, the contents are the plain L0 fold -/
theorem history_refines_plain (cfg : Cfg) (c : Nat) (hpol : StrongPolicy cfg) :
    ∀ (h : List (SOp α × List Nat)) (w : World α) (xs : List (Val α)), Pre cfg w c → Holds w c xs → ValidHist cfg c w h →
      AllReturned cfg c w h → Holds (runHist cfg c w h) c (plainSpec (h.map (·.1)) xs)
  | [], _, _, _, hx, _, _ => hx
  | x :: h, w, xs, hp, hx, hv, ha => by
    have hs := step_spec' cfg c x w xs hp hpol hx hv.1
    obtain ⟨w', hr⟩ := ha.1
    rw [hr] at hs
    have hv2 := hv.2; have ha2 := ha.2
    rw [hr] at hv2 ha2
    show Holds (runHist cfg c (stepW cfg c w x).world h) c (plainSpec (h.map (·.1)) (x.1.spec xs))
    rw [hr]
    exact history_refines_plain cfg c hpol h w' _ hs.1 hs.2 hv2 ha2

/-! ### non-vacuity: a concrete history on the full inline container [1, 2] -/
def exHist : List (SOp Int × List Nat) :=
  [(.pushBack 3, []), (.erase 0, []), (.pushBackSelf 1, [1]), (.reserve 9, []), (.resize 1 0, []), (.append [7, 8], []), (.insertSelf 1 2, []), (.assign 2 5, []), (.insert 1 6, [])]

example : ValidHist Ex.cfgT 0 Ex.w0 exHist := by decide +kernel
example : ThrowsOnlyStrong Ex.cfgT 0 Ex.w0 exHist := by decide +kernel
/-- the third call throws (fault at the second fault point, during the reallocating push_back) and changes nothing -/
example : specHist Ex.cfgT 0 Ex.w0 exHist [.val 1, .val 2] = [.val 5, .val 6, .val 5] := by decide +kernel
example : let w := runHist Ex.cfgT 0 Ex.w0 exHist
    (w.mem (w.hdr 0).data).take (w.hdr 0).size = [.obj (.val 5), .obj (.val 6), .obj (.val 5)] := by decide +kernel

end SvModel.History
