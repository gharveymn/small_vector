/-
Histories over SEVERAL interacting containers (the quantifier of C02, C03, C04, C06: "all call histories over several
interacting containers, all injected-exception points").

A system state is a world together with the list `A` of constructed containers (among the container ids `U`).
`MOp` is the call language: construct a container from values or as a copy of another one, destroy one, or make any
call of the single-container language `SOp` (History.lean) on one of them.  Each call gets its own arbitrary fault
list; a call that throws leaves the system where the throw left it and the history goes on.

 * `reachable_sys`   from a system satisfying `SysAll` (every constructed container valid, buffers pairwise apart,
                     EVERY live heap block is the buffer of exactly one constructed container, unborn storage raw, no
                     lifetime violation logged), every valid history ends in such a system again — after every call,
                     returned or thrown.  In particular: no block is ever leaked or owned twice (C04), objects live
                     exactly in `[0, size)` of the buffers of constructed containers (C03), and a failed constructor
                     leaves nothing behind (C06).
 * `sys_contents`    the contents of every constructed container follow the L0 (`std::vector`) meaning of the calls:
                     a call on `c` changes `c` as L0 says and NO other container (`track`), copy construction yields
                     the source's values and leaves the source alone.
 * `destroy_all_clean`  destroying every container of a reachable system leaves an empty allocator ledger.
-/
import SvModel.Properties.History
import SvModel.Properties.CtorProps
import SvModel.Proofs.SysInv
import SvModel.Proofs.CopyAssign
import SvModel.Proofs.SwapSys
import SvModel.Proofs.MoveCtorAll
import SvModel.Proofs.MoveAssignAll
import SvModel.Proofs.CopyAssignProp
import SvModel.Proofs.SwapAll
import SvModel.Proofs.AppendOtherMove
import SvModel.Proofs.CtorInputSys
import SvModel.Api

namespace SvModel
variable {α : Type}

/-- `upd σ c ys` describes a world in which `c` holds `ys` and the others hold what `σ` says -/
theorem Holds.upd {w : World α} {σ : Nat → List (Val α)} {c d : Nat} {ys : List (Val α)} (hy : Holds w c ys)
    (hk : d ≠ c → Holds w d (σ d)) : Holds w d (upd σ c ys d) := by
  by_cases h : d = c
  · rw [h, upd_same]; exact hy
  · rw [upd_other _ _ _ _ h]; exact hk h

end SvModel

namespace SvModel.System
open SvModel Gen History
variable {α : Type}

inductive MOp (α : Type) where
  | ctorVals (c a : Nat) (vs : List α)      -- small_vector (first, last, alloc) / (n, x, alloc) — checked allocation
  | ctorCount (c a n : Nat) (d : α)         -- small_vector (n, alloc): n value-initialised elements (value `d`)
  | ctorInput (c a sid : Nat) (vs : List α) -- small_vector (first, last, alloc) for SINGLE-PASS iterators (stream `sid`)
  | ctorCopy (c o a : Nat)                   -- small_vector (other, alloc), any pair of inline capacities
  | dtor (c : Nat)
  | on (c : Nat) (op : SOp α)
  | copyAssign (c o : Nat)                   -- c = o (operator= / assign (const small_vector&)): equal, non-propagating or propagating allocators
  | swap (c o : Nat)                         -- c.swap (o), same type, any allocator relation (every path)
  | ctorMove (c o : Nat)                     -- small_vector (std::move (o)), any pair of inline capacities
  | ctorMoveAlloc (c o a : Nat)              -- small_vector (std::move (o), a)
  | moveAssign (c o : Nat)                   -- c = std::move (o), any pair of inline capacities, any allocator relation
  | append (c o : Nat)                       -- c.append (o), any pair of inline capacities
  | appendMove (c o : Nat)                   -- c.append (std::move (o)): copies or moves as the element type dictates, then o.clear ()
  deriving DecidableEq

structure St (α : Type) where
  w : World α
  A : List Nat

def MOp.valid (cfg : Cfg) (U : List Nat) (s : St α) : MOp α → Prop
  | .ctorVals c _ _ | .ctorCount c _ _ _ | .ctorInput c _ _ _ => c ∈ U ∧ c ∉ s.A
  | .ctorCopy c o _ => c ∈ U ∧ c ∉ s.A ∧ o ∈ s.A
  | .dtor c => c ∈ s.A
  | .on c op => c ∈ s.A ∧ op.valid (s.w.hdr c).size
  | .copyAssign c o => c ∈ s.A ∧ o ∈ s.A ∧ o ≠ c ∧
      ((s.w.hdr o).alloc = (s.w.hdr c).alloc ∨ cfg.pocca = false ∨ copyAssignPropagating cfg.policy = true)
  | .swap c o => c ∈ s.A ∧ o ∈ s.A ∧ c ≠ o ∧ (s.w.hdr c).N = (s.w.hdr o).N ∧
      ((s.w.hdr c).N = 0 → (s.w.hdr c).inl = (s.w.hdr o).inl) ∧ (allocationsAreSwappable cfg.policy = true → SwapAllocOK cfg s.w c o)
  | .ctorMove c o | .ctorMoveAlloc c o _ => c ∈ U ∧ c ∉ s.A ∧ o ∈ s.A ∧ ((s.w.hdr c).N = 0 → (s.w.hdr o).N = 0 → (s.w.hdr c).inl = (s.w.hdr o).inl)
  | .moveAssign c o => c ∈ s.A ∧ o ∈ s.A ∧ c ≠ o ∧ ((s.w.hdr c).N = 0 → (s.w.hdr o).N = 0 → (s.w.hdr c).inl = (s.w.hdr o).inl) ∧
      (allocationsAreMovable cfg.policy = true → cfg.policy.pocma = true ∨ (s.w.hdr c).alloc = (s.w.hdr o).alloc)
  | .append c o | .appendMove c o => c ∈ s.A ∧ o ∈ s.A ∧ o ≠ c

def MOp.run (cfg : Cfg) (w : World α) : MOp α → M α Unit
  | .ctorVals c a vs => ctorFill cfg c a true (vs.map Src.ext)
  | .ctorCount c a n d => ctorFill cfg c a true (List.replicate n (.value d))
  | .ctorInput c a sid vs => SvModel.ctorInput cfg c a sid vs
  | .ctorCopy c o a => SvModel.ctorCopy cfg c o a
  | .dtor c => SvModel.dtor cfg c
  | .on c op => op.run cfg c w
  | .copyAssign c o => SvModel.copyAssign cfg c o
  | .swap c o => SvModel.swap cfg c o
  | .ctorMove c o => SvModel.ctorMove cfg c o
  | .ctorMoveAlloc c o a => SvModel.ctorMoveAlloc cfg c o a
  | .moveAssign c o => SvModel.moveAssign cfg c o
  | .append c o => SvModel.appendOther cfg c o
  | .appendMove c o => SvModel.appendOtherMove cfg c o

/-- one call: install the fault list, run; a constructor that returns adds its container, a destructor removes it -/
def step (cfg : Cfg) (s : St α) (x : MOp α × List Nat) : St α :=
  let w0 := { s.w with faults := x.2 }
  match x.1.run cfg w0 w0 with
  | .ok _ w' =>
      { w := w', A := match x.1 with
                     | .ctorVals c _ _ | .ctorCount c _ _ _ | .ctorInput c _ _ _ | .ctorCopy c _ _ | .ctorMove c _ | .ctorMoveAlloc c _ _ => c :: s.A
                     | .dtor c => s.A.filter (· ≠ c)
                     | .on _ _ | .copyAssign _ _ | .swap _ _ | .moveAssign _ _ | .append _ _ | .appendMove _ _ => s.A }
  | .thrown _ w' => { w := w', A := s.A }

def run (cfg : Cfg) : St α → List (MOp α × List Nat) → St α
  | s, [] => s
  | s, x :: h => run cfg (step cfg s x) h

def ValidHist (cfg : Cfg) (U : List Nat) : St α → List (MOp α × List Nat) → Prop
  | _, [] => True
  | s, x :: h => x.1.valid cfg U s ∧ ValidHist cfg U (step cfg s x) h

theorem sysAll_faults {cfg : Cfg} {w : World α} {U A : List Nat} (h : SysAll cfg w U A) (f : List Nat) :
    SysAll cfg { w with faults := f } U A :=
  ⟨h.sub,
   ⟨fun c hc => (h.ok.vec c hc).faults f, h.ok.nmax, h.ok.led.faults f, h.ok.ub,
    fun c hc d hd hcd => ⟨(h.ok.sep c hc d hd hcd).inl, (h.ok.sep c hc d hd hcd).data⟩, h.ok.noleak⟩,
   fun c hc hn => ⟨(h.unborn c hc hn).inl_lt, (h.unborn c hc hn).len, (h.unborn c hc hn).raws⟩, h.nmaxU, h.inlsep⟩

/-- copy construction inside a system: the sources are the live elements of a constructed container, apart from the new
    container's storage -/
theorem ctorCopy_srcs {cfg : Cfg} {w : World α} {U A : List Nat} {c o : Nat} (hs : SysAll cfg w U A)
    (hcU : c ∈ U) (hcA : c ∉ A) (ho : o ∈ A) :
    CtorSrcs cfg w c (srcsCopy (w.hdr o).data 0 (w.hdr o).size) ∧ (w.hdr o).size ≤ cfg.maxSize := by
  have hvo := hs.ok.vec o ho
  have hl := hs.ok.led
  refine ⟨?_, Nat.le_trans hvo.size_le (hvo.cap_le_max (hs.ok.nmax o ho))⟩
  by_cases hz : (w.hdr o).size = 0
  · rw [hz]
    exact ⟨fun _ h => absurd h List.not_mem_nil, fun _ h => absurd h List.not_mem_nil, fun _ h => absurd h List.not_mem_nil⟩
  -- a non-empty source buffer is not the new container's in-object buffer
  exact ctorSrcs_copy hl hvo (hvo.data_ne_inl hl (hs.unborn c hcU hcA).inl_lt
    (hs.inlsep o (hs.sub o ho) c hcU (fun h => hcA (h ▸ ho))) (Or.inl (by have := hvo.size_le; omega)))

/-! ### contents: every constructed container follows the L0 (`std::vector`) meaning of the calls (C01 over several
    containers), and a call on one container changes no other (frame) -/

/-- `σ c` = the values container `c` holds -/
def Tracks (s : St α) (σ : Nat → List (Val α)) : Prop := ∀ c ∈ s.A, Holds s.w c (σ c)

/-- the containers a call writes to -/
def MOp.targets : MOp α → List Nat
  | .ctorVals c _ _ | .ctorCount c _ _ _ | .ctorInput c _ _ _ | .ctorCopy c _ _ | .dtor c | .on c _ | .copyAssign c _ | .append c _ => [c]
  | .swap c o | .ctorMove c o | .ctorMoveAlloc c o _ | .moveAssign c o | .appendMove c o => [c, o]

/-- the containers whose contents after a returning call the standard leaves unspecified ("valid but unspecified"):
    the source of an element-wise move -/
def MOp.unspecified : MOp α → List Nat
  | .ctorMove _ o | .ctorMoveAlloc _ o _ | .moveAssign _ o => [o]
  | _ => []

/-- what std::vector does, for a call that returns -/
def MOp.spec (σ : Nat → List (Val α)) : MOp α → Nat → List (Val α)
  | .ctorVals c _ vs => upd σ c (vs.map Val.val)
  | .ctorCount c _ n d => upd σ c (List.replicate n (.val d))
  | .ctorInput c _ _ vs => upd σ c (vs.map Val.val)
  | .ctorCopy c o _ => upd σ c (σ o)
  | .dtor _ => σ
  | .on c op => upd σ c (op.spec (σ c))
  | .copyAssign c o => upd σ c (σ o)
  | .swap c o => upd (upd σ c (σ o)) o (σ c)
  | .ctorMove c o | .ctorMoveAlloc c o _ | .moveAssign c o => upd σ c (σ o)          -- the source: see `MOp.unspecified`
  | .append c o => upd σ c (σ c ++ σ o)
  | .appendMove c o => upd (upd σ c (σ c ++ σ o)) o []                               -- the source is cleared

def returned (cfg : Cfg) (s : St α) (x : MOp α × List Nat) : Bool :=
  match x.1.run cfg { s.w with faults := x.2 } { s.w with faults := x.2 } with
  | .ok _ _ => true
  | .thrown _ _ => false

/-- the container a call constructs (`true`) or destroys (`false`) -/
def MOp.life : MOp α → Option (Nat × Bool)
  | .ctorVals c _ _ | .ctorCount c _ _ _ | .ctorInput c _ _ _ | .ctorCopy c _ _ | .ctorMove c _ | .ctorMoveAlloc c _ _ => some (c, true)
  | .dtor c => some (c, false)
  | .on _ _ | .copyAssign _ _ | .swap _ _ | .moveAssign _ _ | .append _ _ | .appendMove _ _ => none

/-- the constructed containers after a call that returned -/
def MOp.after (A : List Nat) (op : MOp α) : List Nat :=
  match op.life with
  | some (c, true) => c :: A
  | some (c, false) => A.filter (· ≠ c)
  | none => A

/-- a valid call constructs or destroys one of the containers `U` -/
theorem life_mem {cfg : Cfg} {U : List Nat} {s : St α} {op : MOp α} (hsub : ∀ c ∈ s.A, c ∈ U) (hv : op.valid cfg U s)
    {x : Nat} {b : Bool} (hl : op.life = some (x, b)) : x ∈ U := by
  cases op with
  | ctorVals _ _ _ | ctorCount _ _ _ _ | ctorInput _ _ _ _ | ctorCopy _ _ _ | ctorMove _ _ | ctorMoveAlloc _ _ _ => cases hl; exact hv.1
  | dtor _ => cases hl; exact hsub _ hv
  | on _ _ | copyAssign _ _ | swap _ _ | moveAssign _ _ | append _ _ | appendMove _ _ => cases hl

theorem step_eq (cfg : Cfg) (s : St α) (x : MOp α × List Nat) :
    step cfg s x = match x.1.run cfg { s.w with faults := x.2 } { s.w with faults := x.2 } with
      | .ok _ w' => ⟨w', x.1.after s.A⟩
      | .thrown _ w' => ⟨w', s.A⟩ := by
  obtain ⟨op, f⟩ := x
  unfold step
  simp only []
  cases MOp.run cfg { s.w with faults := f } op { s.w with faults := f } with
  | thrown e w' => rfl
  | ok r w' => cases op <;> rfl

/-- a property of (world, constructed containers) that a call establishes in both outcomes holds of the next state -/
theorem step_sat {cfg : Cfg} {s : St α} {x : MOp α × List Nat} {P : World α → List Nat → Prop}
    (h : (x.1.run cfg { s.w with faults := x.2 } { s.w with faults := x.2 }).sat
      (fun _ w' => P w' (x.1.after s.A)) (fun _ w' => P w' s.A)) :
    P (step cfg s x).w (step cfg s x).A := by
  rw [step_eq]
  cases hr : x.1.run cfg { s.w with faults := x.2 } { s.w with faults := x.2 } <;> rw [hr] at h <;> exact h

theorem Tracks.keep {w w' : World α} {A : List Nat} {σ : Nat → List (Val α)} (ht : Tracks ⟨w, A⟩ σ)
    (h : ∀ d ∈ A, w'.hdr d = w.hdr d ∧ w'.mem (w.hdr d).data = w.mem (w.hdr d).data) : Tracks ⟨w', A⟩ σ :=
  fun d hd => (ht d hd).of_mem_eq (h d hd).1 (h d hd).2

/-- a constructor returned: the new container holds `ys`, the others are untouched -/
theorem Tracks.born {w w' : World α} {A : List Nat} {σ : Nat → List (Val α)} {c : Nat} {ys : List (Val α)} (ht : Tracks ⟨w, A⟩ σ)
    (hy : Holds w' c ys) (h : ∀ d ∈ A, w'.hdr d = w.hdr d ∧ w'.mem (w.hdr d).data = w.mem (w.hdr d).data) :
    Tracks ⟨w', c :: A⟩ (upd σ c ys) :=
  fun d hd => hy.upd fun hdc => ht.keep h d ((List.mem_cons.mp hd).resolve_left hdc)

/-- valid containers hold SOME list each: if all but those in `T` are known to hold what `ρ` says, there is a
    description of all of them that agrees with `ρ` off `T` -/
theorem tracks_except {cfg : Cfg} {w : World α} {A : List Nat} (hv : ∀ d ∈ A, VecOK cfg w d) :
    ∀ (T : List Nat) (ρ : Nat → List (Val α)), (∀ d ∈ A, d ∉ T → Holds w d (ρ d)) →
      ∃ σ', Tracks ⟨w, A⟩ σ' ∧ ∀ d, d ∉ T → σ' d = ρ d
  | [], ρ, hk => ⟨ρ, fun d hd => hk d hd List.not_mem_nil, fun _ _ => rfl⟩
  | t :: T, ρ, hk => by
    have not_mem : ∀ {d}, d ≠ t → d ∉ T → d ∉ t :: T := fun h1 h2 hm => (List.mem_cons.mp hm).elim h1 h2
    by_cases ht : t ∈ A
    · obtain ⟨ys, hy⟩ := (hv t ht).holds_exists
      obtain ⟨σ', h1, h2⟩ := tracks_except hv T (upd ρ t ys) fun d hd hdT => hy.upd fun hdt => hk d hd (not_mem hdt hdT)
      exact ⟨σ', h1, fun d hd => (h2 d (List.not_mem_of_not_mem_cons hd)).trans (upd_other _ _ _ _ (List.ne_of_not_mem_cons hd))⟩
    · obtain ⟨σ', h1, h2⟩ := tracks_except hv T ρ fun d hd hdT => hk d hd (not_mem (fun e => ht (e ▸ hd)) hdT)
      exact ⟨σ', h1, fun d hd => h2 d (List.not_mem_of_not_mem_cons hd)⟩

/-- a call on `c` alone whose outcome is `Basic`: the system invariant holds again and the others hold what they held -/
theorem tracks_after_basic {cfg : Cfg} {U A : List Nat} {c : Nat} {w0 w' : World α} (hs0 : SysAll cfg w0 U A) (hc : c ∈ A)
    (hb : Basic cfg w0 w' c) :
    SysAll cfg w' U A ∧ ∀ σ, Tracks ⟨w0, A⟩ σ → ∃ σ', Tracks ⟨w', A⟩ σ' ∧ ∀ d, d ∉ [c] → σ' d = σ d :=
  ⟨hs0.step hc hb, fun σ ht => tracks_except (hs0.step hc hb).ok.vec [c] σ fun d hd hdT =>
    hs0.ok.holds_other hc hb hd (List.ne_of_not_mem_cons hdT) (ht d hd)⟩

/-- ONE CALL, made in a system whose world is `w0`: in both outcomes the system invariant holds again, for the new list of
    constructed containers; if the call returns, the containers hold what L0 says (those whose contents the standard
    leaves open hold some list); if it throws, every container other than the targets still holds what it held -/
theorem call_sat (cfg : Cfg) (U : List Nat) (hpol : StrongPolicy cfg) (op : MOp α) {w0 : World α} {A : List Nat}
    (hs0 : SysAll cfg w0 U A) (hv : op.valid cfg U ⟨w0, A⟩) :
    (op.run cfg w0 w0).sat
      (fun _ w' => SysAll cfg w' U (op.after A) ∧ ∀ σ, Tracks ⟨w0, A⟩ σ →
        ∃ σ', Tracks ⟨w', op.after A⟩ σ' ∧ ∀ d, d ∉ op.unspecified → σ' d = op.spec σ d)
      (fun _ w' => SysAll cfg w' U A ∧ ∀ σ, Tracks ⟨w0, A⟩ σ →
        ∃ σ', Tracks ⟨w', A⟩ σ' ∧ ∀ d, d ∉ op.targets → σ' d = σ d) := by
  cases op with
  | ctorVals c a vs =>
    obtain ⟨hcU, hcA⟩ := hv
    have h := SysAll.ctorFill hs0 hcU hcA a true (vs.map Src.ext) (fun h => by cases h) (ctorSrcs_ext cfg w0 c _ (external_ext vs))
    rw [map_srcVal_ext] at h
    exact Res.sat_mono h (fun _ _ h => ⟨h.1, fun σ ht => ⟨_, ht.born h.2.1 h.2.2.2, fun _ _ => rfl⟩⟩)
      (fun _ _ h => ⟨h.1, fun σ ht => ⟨σ, ht.keep h.2.2, fun _ _ => rfl⟩⟩)
  | ctorCount c a n d =>
    obtain ⟨hcU, hcA⟩ := hv
    have hext : External (List.replicate n (Src.value d)) := fun s hs => by rw [List.eq_of_mem_replicate hs]; rfl
    have h := SysAll.ctorFill hs0 hcU hcA a true (List.replicate n (.value d)) (fun h => by cases h) (ctorSrcs_ext cfg w0 c _ hext)
    rw [map_srcVal_replicate] at h
    exact Res.sat_mono h (fun _ _ h => ⟨h.1, fun σ ht => ⟨_, ht.born h.2.1 h.2.2.2, fun _ _ => rfl⟩⟩)
      (fun _ _ h => ⟨h.1, fun σ ht => ⟨σ, ht.keep h.2.2, fun _ _ => rfl⟩⟩)
  | ctorInput c a sid vs =>
    obtain ⟨hcU, hcA⟩ := hv
    exact Res.sat_mono (SysAll.ctorInput hs0 hcU hcA hpol a sid vs)
      (fun _ _ h => ⟨h.1, fun σ ht => ⟨_, ht.born h.2.1 h.2.2, fun _ _ => rfl⟩⟩)
      (fun _ _ h => ⟨h.1, fun σ ht => ⟨σ, ht.keep h.2, fun _ _ => rfl⟩⟩)
  | ctorCopy c o a =>
    obtain ⟨hcU, hcA, ho⟩ := hv
    obtain ⟨hsrc, hsz⟩ := ctorCopy_srcs hs0 hcU hcA ho
    show (ctorFill cfg c a ctorCopyChecked (srcsCopy (w0.hdr o).data 0 (w0.hdr o).size) w0).sat _ _
    refine Res.sat_mono (SysAll.ctorFill hs0 hcU hcA a ctorCopyChecked _ (fun _ => by rw [srcsCopy_length]; exact hsz) hsrc)
      (fun _ _ h => ⟨h.1, fun σ ht => ⟨_, ht.born (srcsCopy_vals (ht o ho) ▸ h.2.1) h.2.2.2, fun _ _ => rfl⟩⟩)
      (fun _ _ h => ⟨h.1, fun σ ht => ⟨σ, ht.keep h.2.2, fun _ _ => rfl⟩⟩)
  | dtor c =>
    refine Res.sat_mono (SysAll.dtor hs0 hv) (fun _ w' h => ⟨h.1, fun σ ht => ⟨σ, fun d hd => ?_, fun _ _ => rfl⟩⟩) (fun _ _ h => h.elim)
    have hd' := List.mem_filter.mp hd
    exact (ht d hd'.1).of_mem_eq (by rw [h.2.1]) (h.2.2 d hd'.1 (of_decide_eq_true hd'.2))
  | on c op =>
    obtain ⟨hc, hvalid⟩ := hv
    have hp : Pre cfg w0 c := ⟨hs0.ok.vec c hc, hs0.ok.led, hs0.ok.nmax c hc, hs0.ok.ub⟩
    obtain ⟨xs, hx⟩ := hp.vec.holds_exists
    refine Res.sat_mono (step_opSpec cfg c op w0 xs hp hpol hx hvalid)
      (fun _ _ h => ⟨hs0.step hc h.1, fun σ ht => ⟨_, fun d hd => ?_, fun _ _ => rfl⟩⟩)
      (fun _ _ h => tracks_after_basic hs0 hc h.1)
    show Holds _ d (upd σ c (op.spec (σ c)) d)
    rw [(ht c hc).unique hx]
    exact h.2.upd fun hdc => hs0.ok.holds_other hc h.1 hd hdc (ht d hd)
  | copyAssign c o =>
    obtain ⟨hc, ho, hoc, hal⟩ := hv
    -- both families of paths give: Basic in both outcomes, the source's values on return
    have key : (SvModel.copyAssign cfg c o w0).sat
        (fun _ w' => Basic cfg w0 w' c ∧ Holds w' c ((srcsCopy (w0.hdr o).data 0 (w0.hdr o).size).map (srcVal w0)))
        (fun _ w' => Basic cfg w0 w' c) := by
      by_cases hdflt : (w0.hdr o).alloc = (w0.hdr c).alloc ∨ cfg.pocca = false
      · obtain ⟨hdef, hmc⟩ := copyAssign_default cfg c o w0 hdflt
        rw [hdef]
        exact Res.sat_mono (copyAssignDefault_sat cfg c o w0 (hs0.ok.vec c hc) hs0.ok.led (hs0.ok.vec o ho)
          (hs0.ok.nmax o ho) (hs0.ok.foreign hc ho hoc) hmc) (fun _ _ h => ⟨h.basic, h.holds⟩) (fun _ _ h => h.1.1)
      · have hprop : copyAssignPropagating cfg.policy = true :=
          hal.resolve_left (fun h => hdflt (Or.inl h)) |>.resolve_left (fun h => hdflt (Or.inr h))
        exact Res.sat_mono (copyAssignProp_sat cfg c o w0 (hs0.ok.vec c hc) hs0.ok.led (hs0.ok.nmax c hc) (hs0.ok.vec o ho)
          (hs0.ok.nmax o ho) (hs0.ok.foreign hc ho hoc) hprop (fun h => hdflt (Or.inl h))) (fun _ _ h => ⟨h.1, h.2.1⟩) (fun _ _ h => h)
    refine Res.sat_mono key
      (fun _ _ h => ⟨hs0.step hc h.1, fun σ ht => ⟨_, fun d hd => ?_, fun _ _ => rfl⟩⟩)
      (fun _ _ h => tracks_after_basic hs0 hc h)
    exact (srcsCopy_vals (ht o ho) ▸ h.2).upd fun hdc => hs0.ok.holds_other hc h.1 hd hdc (ht d hd)
  | swap c o =>
    obtain ⟨hc, ho, hco, hN, hnull, hal⟩ := hv
    exact Res.sat_mono (SysAll.swapAny hs0 hc ho hco hN hnull hal)
      (fun _ _ h => ⟨h.1, fun σ ht => ⟨_, fun d hd => (h.2.2.1 _ (ht c hc)).upd fun hdo => (h.2.1 _ (ht o ho)).upd fun hdc =>
        h.2.2.2 d hd hdc hdo _ (ht d hd), fun _ _ => rfl⟩⟩)
      (fun _ _ h => ⟨h.2.1, fun σ ht => tracks_except h.2.1.ok.vec [c, o] σ fun d hd hdT =>
        h.2.2.2.2.1 d hd (List.ne_of_not_mem_cons hdT) (List.ne_of_not_mem_cons (List.not_mem_of_not_mem_cons hdT)) _ (ht d hd)⟩)
  | ctorMove c o =>
    obtain ⟨hcU, hcA, ho, hnull⟩ := hv
    exact Res.sat_mono (SysAll.ctorMove hs0 hcU hcA ho hnull)
      (fun _ _ h => ⟨h.1, fun σ ht => tracks_except h.1.ok.vec [o] (upd σ c (σ o)) fun d hd hdT =>
        (h.2.1 _ (ht o ho)).upd fun hdc =>
          have hdA := (List.mem_cons.mp hd).resolve_left hdc
          h.2.2.2 d hdA (List.ne_of_not_mem_cons hdT) _ (ht d hdA)⟩)
      (fun _ _ h => ⟨h.1, fun σ ht => tracks_except h.1.ok.vec [c, o] σ fun d hd hdT =>
        h.2.2.2 d hd (List.ne_of_not_mem_cons (List.not_mem_of_not_mem_cons hdT)) _ (ht d hd)⟩)
  | ctorMoveAlloc c o a =>
    obtain ⟨hcU, hcA, ho, hnull⟩ := hv
    exact Res.sat_mono (SysAll.ctorMoveAlloc hs0 hcU hcA ho a hnull)
      (fun _ _ h => ⟨h.1, fun σ ht => tracks_except h.1.ok.vec [o] (upd σ c (σ o)) fun d hd hdT =>
        (h.2.1 _ (ht o ho)).upd fun hdc =>
          have hdA := (List.mem_cons.mp hd).resolve_left hdc
          h.2.2.2 d hdA (List.ne_of_not_mem_cons hdT) _ (ht d hdA)⟩)
      (fun _ _ h => ⟨h.1, fun σ ht => tracks_except h.1.ok.vec [c, o] σ fun d hd hdT =>
        h.2.2.2 d hd (List.ne_of_not_mem_cons (List.not_mem_of_not_mem_cons hdT)) _ (ht d hd)⟩)
  | moveAssign c o =>
    obtain ⟨hc, ho, hco, hnull, hal⟩ := hv
    exact Res.sat_mono (SysAll.moveAssign hs0 hc ho hco hnull hal)
      (fun _ _ h => ⟨h.1, fun σ ht => tracks_except h.1.ok.vec [o] (upd σ c (σ o)) fun d hd hdT =>
        (h.2.1 _ (ht o ho)).upd fun hdc => h.2.2.2 d hd hdc (List.ne_of_not_mem_cons hdT) _ (ht d hd)⟩)
      (fun _ _ h => ⟨h.1, fun σ ht => tracks_except h.1.ok.vec [c, o] σ fun d hd hdT =>
        h.2.2.2 d hd (List.ne_of_not_mem_cons hdT) (List.ne_of_not_mem_cons (List.not_mem_of_not_mem_cons hdT)) _ (ht d hd)⟩)
  | append c o =>
    obtain ⟨hc, ho, hoc⟩ := hv
    exact Res.sat_mono (SysAll.appendOther hs0 hc ho hoc hpol)
      (fun _ _ h => ⟨h.1, fun σ ht => ⟨_, fun d hd => (h.2.1 _ _ (ht c hc) (ht o ho)).upd fun hdc => h.2.2 d hd hdc _ (ht d hd),
        fun _ _ => rfl⟩⟩)
      (fun _ _ h => ⟨hs0.step hc (h.basic hs0.ok.led (hs0.ok.vec c hc)), fun σ ht =>
        ⟨σ, fun d hd => h.holds hs0.ok.led (hs0.ok.vec d hd) (ht d hd), fun _ _ => rfl⟩⟩)
  | appendMove c o =>
    obtain ⟨hc, ho, hoc⟩ := hv
    exact Res.sat_mono (SysAll.appendOtherMove hs0 hc ho hoc hpol)
      (fun _ _ h => ⟨h.1, fun σ ht => ⟨_, fun d hd => h.2.2.1.upd fun hdo => (h.2.1 _ _ (ht c hc) (ht o ho)).upd fun hdc =>
        h.2.2.2 d hd hdc hdo _ (ht d hd), fun _ _ => rfl⟩⟩)
      (fun _ _ h => ⟨h.2.1, fun σ ht => tracks_except h.2.1.ok.vec [c, o] σ fun d hd hdT =>
        h.2.2.2.2 d hd (List.ne_of_not_mem_cons hdT) (List.ne_of_not_mem_cons (List.not_mem_of_not_mem_cons hdT)) _ (ht d hd)⟩)

theorem step_sys (cfg : Cfg) (U : List Nat) (hpol : StrongPolicy cfg) (s : St α) (x : MOp α × List Nat)
    (hs : SysAll cfg s.w U s.A) (hv : x.1.valid cfg U s) : SysAll cfg (step cfg s x).w U (step cfg s x).A :=
  step_sat (P := fun w A => SysAll cfg w U A)
    (Res.sat_mono (call_sat cfg U hpol x.1 (sysAll_faults hs x.2) hv) (fun _ _ h => h.1) (fun _ _ h => h.1))

/-- C02 / C03 / C04 / C06 over histories of several interacting containers -/
theorem reachable_sys (cfg : Cfg) (U : List Nat) (hpol : StrongPolicy cfg) :
    ∀ (h : List (MOp α × List Nat)) (s : St α), SysAll cfg s.w U s.A → ValidHist cfg U s h →
      SysAll cfg (run cfg s h).w U (run cfg s h).A
  | [], _, hs, _ => hs
  | x :: h, s, hs, hv => reachable_sys cfg U hpol h (step cfg s x) (step_sys cfg U hpol s x hs hv.1) hv.2

/-- what `SysAll` says at any quiescent point, spelled out against the property texts -/
theorem sys_clauses {cfg : Cfg} {w : World α} {U A : List Nat} (h : SysAll cfg w U A) :
    (∀ c ∈ A, VecOK cfg w c) ∧                                                    -- C02 for every constructed container
    (∀ b ∈ w.live, ∃ c ∈ A, (w.hdr c).data = b ∧ (w.hdr c).data ≠ (w.hdr c).inl) ∧  -- C04: live blocks = buffers of non-inlined containers
    (∀ c ∈ A, (w.hdr c).data ≠ (w.hdr c).inl → (w.hdr c).data ∈ w.live) ∧
    (∀ c ∈ A, ∀ d ∈ A, c ≠ d → (w.hdr c).data ≠ (w.hdr c).inl → (w.hdr c).data ≠ (w.hdr d).data) ∧   -- no block owned twice
    (∀ c ∈ U, c ∉ A → ∀ i, i < (w.hdr c).N → IsRaw w (w.hdr c).inl i) ∧            -- C03: nothing alive in unborn storage
    w.ub = [] := by
  refine ⟨h.ok.vec, ?_, fun c hc hne => ((h.ok.vec c hc).heap hne).1, fun c hc d hd hcd => (h.ok.sep c hc d hd hcd).data,
          fun c hc hn => (h.unborn c hc hn).raws, h.ok.ub⟩
  intro b hb
  obtain ⟨c, hc, hcd⟩ := h.ok.noleak b hb
  refine ⟨c, hc, hcd, ?_⟩
  have := (h.ok.led.live_ok b hb).1
  have := (h.ok.vec c hc).inl_lt
  omega

/-- C07, storage side: in every system state each heap buffer was obtained from (an allocator equal to) the allocator
    its container holds NOW — so the deallocation that `wipe`/the destructor will perform goes to the right allocator,
    whatever sequence of propagating / non-propagating assignments, moves and swaps led here -/
theorem sys_alloc_clause {cfg : Cfg} {w : World α} {U A : List Nat} (h : SysAll cfg w U A) :
    ∀ c ∈ A, (w.hdr c).data ≠ (w.hdr c).inl → w.owner (w.hdr c).data = (w.hdr c).alloc :=
  fun c hc hne => ((h.ok.vec c hc).heap hne).2

/-- ONE CALL, contents: if it returns, every container holds what L0 says (the target changes, nobody else does);
    if it throws, every container other than the target still holds what it held, and the target holds SOME list
    (its own old one for the strong calls — History.step_basic) -/
theorem step_tracks (cfg : Cfg) (U : List Nat) (hpol : StrongPolicy cfg) (s : St α) (x : MOp α × List Nat) (σ : Nat → List (Val α))
    (hs : SysAll cfg s.w U s.A) (hv : x.1.valid cfg U s) (ht : Tracks s σ) :
    (returned cfg s x = true → ∃ σ', (∀ d, d ∉ x.1.unspecified → σ' d = x.1.spec σ d) ∧ Tracks (step cfg s x) σ') ∧
    (returned cfg s x = false → ∃ σ', Tracks (step cfg s x) σ' ∧ ∀ d, d ∉ x.1.targets → σ' d = σ d) := by
  have h := call_sat cfg U hpol x.1 (sysAll_faults hs x.2) hv
  unfold returned
  rw [step_eq]
  cases hr : x.1.run cfg { s.w with faults := x.2 } { s.w with faults := x.2 } with
  | ok r w' =>
    rw [hr] at h
    obtain ⟨σ', h1, h2⟩ := h.2 σ ht
    exact ⟨fun _ => ⟨σ', h2, h1⟩, fun h' => by cases h'⟩
  | thrown e w' =>
    rw [hr] at h
    exact ⟨fun h' => (by cases h'), fun _ => h.2 σ ht⟩

/-- the std::vector side of a history in which every call returned -/
def specAll : List (MOp α) → (Nat → List (Val α)) → Nat → List (Val α)
  | [], σ => σ
  | op :: h, σ => specAll h (op.spec σ)

def AllReturned (cfg : Cfg) : St α → List (MOp α × List Nat) → Prop
  | _, [] => True
  | s, x :: h => returned cfg s x = true ∧ AllReturned cfg (step cfg s x) h

/-- a history of L0 calls relates the contents before to the contents after; where the standard leaves a container's
    contents unspecified (the source of a move) any list is allowed -/
def SpecRun : List (MOp α) → (Nat → List (Val α)) → (Nat → List (Val α)) → Prop
  | [], σ, σ' => σ' = σ
  | op :: h, σ, σ' => ∃ σ1, (∀ d, d ∉ op.unspecified → σ1 d = op.spec σ d) ∧ SpecRun h σ1 σ'

/-- C01 over several containers: along a valid history whose calls all return, the constructed containers hold what
    the corresponding `std::vector`s would hold after the same calls (moved-from sources: some list of constructed
    elements, as for std::vector) -/
theorem sys_refines_rel (cfg : Cfg) (U : List Nat) (hpol : StrongPolicy cfg) :
    ∀ (h : List (MOp α × List Nat)) (s : St α) (σ : Nat → List (Val α)), SysAll cfg s.w U s.A → Tracks s σ →
      ValidHist cfg U s h → AllReturned cfg s h → ∃ σ', SpecRun (h.map (·.1)) σ σ' ∧ Tracks (run cfg s h) σ'
  | [], _, σ, _, ht, _, _ => ⟨σ, rfl, ht⟩
  | x :: h, s, σ, hs, ht, hv, ha => by
    obtain ⟨σ1, h1, ht1⟩ := (step_tracks cfg U hpol s x σ hs hv.1 ht).1 ha.1
    obtain ⟨σ', hr, ht'⟩ := sys_refines_rel cfg U hpol h (step cfg s x) σ1 (step_sys cfg U hpol s x hs hv.1) ht1 hv.2 ha.2
    exact ⟨σ', ⟨σ1, h1, hr⟩, ht'⟩

/-- … and when no call of the history leaves anything unspecified the contents are a FUNCTION of the calls -/
theorem sys_refines (cfg : Cfg) (U : List Nat) (hpol : StrongPolicy cfg) :
    ∀ (h : List (MOp α × List Nat)) (s : St α) (σ : Nat → List (Val α)), SysAll cfg s.w U s.A → Tracks s σ →
      ValidHist cfg U s h → AllReturned cfg s h → (∀ x ∈ h, x.1.unspecified = []) →
      Tracks (run cfg s h) (specAll (h.map (·.1)) σ)
  | [], _, _, _, ht, _, _, _ => ht
  | x :: h, s, σ, hs, ht, hv, ha, hd => by
    obtain ⟨σ1, h1, ht1⟩ := (step_tracks cfg U hpol s x σ hs hv.1 ht).1 ha.1
    have hx : x.1.unspecified = [] := hd x (by simp)
    have e : σ1 = x.1.spec σ := funext fun d => h1 d (by rw [hx]; simp)
    rw [e] at ht1
    exact sys_refines cfg U hpol h (step cfg s x) (x.1.spec σ) (step_sys cfg U hpol s x hs hv.1) ht1 hv.2 ha.2
      (fun y hy => hd y (by simp [hy]))

theorem init_unborn (N M c : Nat) (hc4 : c < 4) : Unborn (initWorld N M : World Int) c := by
  -- the in-object buffer of `c`: `n` raw slots, `n` the inline capacity; the empty null block if `n = 0`
  have hmem : ∀ n, n = (if c < 2 then N else M) →
      (initWorld N M : World Int).mem (if n = 0 then nullBlk else c) = List.replicate n .raw := by
    intro n hn
    show (if (if n = 0 then nullBlk else c) < 2 then _ else if (if n = 0 then nullBlk else c) < 4 then _ else []) = _
    by_cases hz : n = 0
    · rw [if_pos hz, if_neg (by decide), if_neg (by decide), hz]; rfl
    · rw [if_neg hz]
      by_cases h2 : c < 2
      · rw [if_pos h2, hn, if_pos h2]
      · rw [if_neg h2, if_pos hc4, hn, if_neg h2]
  have hm := hmem _ rfl
  refine ⟨?_, (congrArg List.length hm).trans List.length_replicate, fun i hi => (congrArg (·[i]?) hm).trans ?_⟩
  · show (if (if c < 2 then N else M) = 0 then nullBlk else c) < 5
    by_cases hz : (if c < 2 then N else M) = 0
    · rw [if_pos hz]; decide
    · rw [if_neg hz]; omega
  · rw [List.getElem?_replicate]; exact if_pos hi

theorem init_ledger (N M : Nat) : Ledger (initWorld N M : World Int) := by
  have hmem : ∀ b, 4 ≤ b → (initWorld N M : World Int).mem b = [] := fun b hb => by
    show (if b < 2 then _ else if b < 4 then _ else []) = []
    rw [if_neg (by omega), if_neg (by omega)]
  exact ⟨(show 5 % 2 = 1 ∧ 5 ≤ 5 by decide), (show 6 % 2 = 0 ∧ 6 ≤ 6 by decide), fun _ hb => absurd hb List.not_mem_nil, List.nodup_nil,
    fun b h _ _ => hmem b (by omega), fun b h _ => hmem b (Nat.le_trans (show 4 ≤ 6 by decide) h)⟩

theorem init_inlsep (N M c d : Nat) (hc4 : c < 4) (hd4 : d < 4) (hcd : c ≠ d) : InlSep (initWorld N M : World Int) c d := by
  unfold InlSep
  have hc : ∀ x, ((initWorld N M : World Int).hdr x).N = (if x < 2 then N else M) ∧
      ((initWorld N M : World Int).hdr x).inl = (if (if x < 2 then N else M) = 0 then nullBlk else x) := fun x => ⟨rfl, rfl⟩
  rw [(hc c).1, (hc c).2, (hc d).1, (hc d).2]
  by_cases hzc : (if c < 2 then N else M) = 0
  · by_cases hzd : (if d < 2 then N else M) = 0
    · exact Or.inr ⟨hzc, hzd⟩
    · left; rw [if_pos hzc, if_neg hzd]; simp [nullBlk]; omega
  · by_cases hzd : (if d < 2 then N else M) = 0
    · left; rw [if_neg hzc, if_pos hzd]; simp [nullBlk]; omega
    · left; rw [if_neg hzc, if_neg hzd]; exact hcd
/-- the initial world of the driver/harness (four unconstructed containers: two of inline capacity N, two of M) is a
    system with nothing constructed -/
theorem init_sys (cfg : Cfg) (N M : Nat) (hN : N ≤ cfg.maxSize) (hM : M ≤ cfg.maxSize) :
    SysAll cfg (initWorld N M : World Int) [0, 1, 2, 3] [] := by
  have m4 : ∀ c, c ∈ [0, 1, 2, 3] → c < 4 := fun c hc => by simp at hc; omega
  refine ⟨fun _ h => by simp at h, SysOK.empty (init_ledger N M) rfl rfl, fun c hc _ => init_unborn N M c (m4 c hc), ?_,
          fun c hc d hd hcd => init_inlsep N M c d (m4 c hc) (m4 d hd) hcd⟩
  intro c _
  have : ((initWorld N M : World Int).hdr c).N = (if c < 2 then N else M) := rfl
  rw [this]; split <;> assumption

/-- non-vacuity: a history over three containers with a throwing copy construction, a throwing insert, a copy assignment
    across inline capacities (2 ← 3) that reallocates, and a throwing copy assignment -/
def exHist : List (MOp Int × List Nat) :=
  [(.ctorVals 0 0 [1, 2, 3], []), (.ctorCopy 2 0 0, [1]), (.ctorCopy 2 0 0, []), (.on 0 (.pushBack 4), []), (.on 2 (.insert 1 9), [2]),
   (.ctorVals 1 0 [], []), (.on 1 (.append [5, 6, 7]), []), (.copyAssign 1 0, [2]), (.copyAssign 1 0, []), (.copyAssign 2 1, []),
   (.dtor 0, []), (.on 2 (.erase 0), []), (.dtor 2, []), (.dtor 1, [])]

example : (run Ex.cfgT ⟨initWorld 2 3, []⟩ exHist).A = [] ∧ (run Ex.cfgT ⟨initWorld 2 3, []⟩ exHist).w.live = [] := by decide +kernel
/-- after the first ten calls: container 1 (N = 2) and container 2 (N = 3) both hold container 0's values -/
example : let s := run Ex.cfgT ⟨initWorld 2 3, []⟩ (exHist.take 10)
    (s.w.mem (s.w.hdr 1).data).take (s.w.hdr 1).size = [.obj (.val 1), .obj (.val 2), .obj (.val 3), .obj (.val 4)] ∧
    (s.w.mem (s.w.hdr 2).data).take (s.w.hdr 2).size = [.obj (.val 1), .obj (.val 2), .obj (.val 3), .obj (.val 4)] ∧
    s.w.live.length = 3 := by decide +kernel

/-- non-vacuity for swap: the mixed inline/heap path both ways, the O(1) path, the element-wise path, and an element-wise
    swap that throws half-way (both containers stay valid, one element is moved-from) -/
def exSwap : List (MOp Int × List Nat) :=
  [(.ctorVals 0 0 [1, 2, 3, 4], []), (.ctorVals 1 0 [5], []), (.swap 0 1, []), (.swap 1 0, []),
   (.on 1 (.append [6, 7, 8]), []), (.swap 0 1, []), (.dtor 0, []), (.ctorVals 0 0 [9, 10], []), (.on 1 (.erase 0), []),
   (.dtor 1, []), (.ctorVals 1 0 [11], []), (.swap 0 1, [2]), (.swap 0 1, []), (.dtor 0, []), (.dtor 1, []),
   (.ctorVals 0 0 [1, 2, 3], []), (.ctorVals 1 0 [4, 5, 6, 7], []), (.swap 0 1, []), (.dtor 0, []), (.dtor 1, [])]

example : (run Ex.cfgT ⟨initWorld 2 3, []⟩ exSwap).A = [] ∧ (run Ex.cfgT ⟨initWorld 2 3, []⟩ exSwap).w.live = [] := by decide +kernel
/-- the throwing element-wise swap (12th call) -/
example : let s := run Ex.cfgT ⟨initWorld 2 3, []⟩ (exSwap.take 12)
    returned Ex.cfgT (run Ex.cfgT ⟨initWorld 2 3, []⟩ (exSwap.take 11)) (.swap 0 1, [2]) = false ∧
    (s.w.mem (s.w.hdr 0).data).take (s.w.hdr 0).size = [.obj .husk, .obj (.val 10)] ∧
    (s.w.mem (s.w.hdr 1).data).take (s.w.hdr 1).size = [.obj (.val 9)] := by decide +kernel
/-- the O(1) swap (18th call): the two heap buffers change hands -/
example : let s0 := run Ex.cfgT ⟨initWorld 2 3, []⟩ (exSwap.take 17)
    let s := run Ex.cfgT ⟨initWorld 2 3, []⟩ (exSwap.take 18)
    (s.w.hdr 0).data = (s0.w.hdr 1).data ∧ (s.w.hdr 1).data = (s0.w.hdr 0).data ∧ s.w.live.length = 2 ∧
    (s.w.mem (s.w.hdr 0).data).take (s.w.hdr 0).size = [.obj (.val 4), .obj (.val 5), .obj (.val 6), .obj (.val 7)] := by decide +kernel

/-- non-vacuity for move construction: a steal (2 ← 0: the heap buffer changes hands, the source is empty and reusable), an
    element-wise move construction that throws after one element (the source keeps two constructed elements, one of them
    moved-from, the new container does not exist), the same again returning, and both moved-from sources used afterwards -/
def exMove : List (MOp Int × List Nat) :=
  [(.ctorVals 0 0 [1, 2, 3, 4], []), (.ctorMove 2 0, []), (.ctorVals 1 0 [5, 6], []), (.ctorMove 3 1, [1]), (.ctorMove 3 1, []),
   (.on 1 (.pushBack 7), []), (.on 0 (.pushBack 8), []), (.dtor 0, []), (.dtor 1, []), (.dtor 2, []), (.dtor 3, [])]

example : (run Ex.cfgT ⟨initWorld 2 3, []⟩ exMove).A = [] ∧ (run Ex.cfgT ⟨initWorld 2 3, []⟩ exMove).w.live = [] := by decide +kernel
example : let s0 := run Ex.cfgT ⟨initWorld 2 3, []⟩ (exMove.take 1)
    let s := run Ex.cfgT ⟨initWorld 2 3, []⟩ (exMove.take 2)
    (s.w.hdr 2).data = (s0.w.hdr 0).data ∧ (s.w.hdr 0).size = 0 ∧ (s.w.hdr 0).data = (s.w.hdr 0).inl ∧ s.w.trace = s0.w.trace := by decide +kernel
example : let s := run Ex.cfgT ⟨initWorld 2 3, []⟩ (exMove.take 4)
    returned Ex.cfgT (run Ex.cfgT ⟨initWorld 2 3, []⟩ (exMove.take 3)) (.ctorMove 3 1, [1]) = false ∧ s.A = [1, 2, 0] ∧
    (s.w.mem (s.w.hdr 1).data).take (s.w.hdr 1).size = [.obj .husk, .obj (.val 6)] := by decide +kernel
example : let s := run Ex.cfgT ⟨initWorld 2 3, []⟩ (exMove.take 7)
    (s.w.mem (s.w.hdr 1).data).take (s.w.hdr 1).size = [.obj .husk, .obj .husk, .obj (.val 7)] ∧
    (s.w.mem (s.w.hdr 0).data).take (s.w.hdr 0).size = [.obj (.val 8)] ∧
    (s.w.mem (s.w.hdr 3).data).take (s.w.hdr 3).size = [.obj .husk, .obj (.val 6)] := by decide +kernel

/-- non-vacuity for move assignment: a steal; an in-place element-wise assignment into a heap destination that throws
    after one element, then returns; an in-place assignment across inline capacities (3 ← 2); … -/
def exMA : List (MOp Int × List Nat) :=
  [(.ctorVals 0 0 [1, 2, 3, 4], []), (.ctorVals 1 0 [5], []), (.moveAssign 1 0, []),
   (.ctorVals 2 0 [6, 7, 8], []), (.moveAssign 1 2, [1]), (.moveAssign 1 2, []),
   (.on 0 (.append [9, 10]), []), (.moveAssign 2 0, []),
   (.ctorVals 3 0 [11, 12, 13], []), (.on 2 (.clear), []), (.moveAssign 2 3, []),
   (.dtor 0, []), (.dtor 1, []), (.dtor 2, []), (.dtor 3, [])]
/-- … the path into the in-object buffer of a heap destination (throwing, then returning: the heap block is released), and
    the reallocating path (throwing: the new block is given back and the destination is untouched; then returning) -/
def exMA2 : List (MOp Int × List Nat) :=
  [(.ctorVals 2 0 [1, 2, 3, 4, 5], []), (.ctorVals 0 0 [6, 7], []), (.moveAssign 2 0, [1]), (.moveAssign 2 0, []),
   (.ctorVals 3 0 [8, 9, 10], []), (.moveAssign 0 3, [2]), (.moveAssign 0 3, []),
   (.dtor 0, []), (.dtor 2, []), (.dtor 3, [])]

example : (run Ex.cfgT ⟨initWorld 2 3, []⟩ exMA).A = [] ∧ (run Ex.cfgT ⟨initWorld 2 3, []⟩ exMA).w.live = [] ∧
    (run Ex.cfgT ⟨initWorld 2 3, []⟩ exMA2).A = [] ∧ (run Ex.cfgT ⟨initWorld 2 3, []⟩ exMA2).w.live = [] := by decide +kernel
example : let s := run Ex.cfgT ⟨initWorld 2 3, []⟩ (exMA.take 5)
    returned Ex.cfgT (run Ex.cfgT ⟨initWorld 2 3, []⟩ (exMA.take 4)) (.moveAssign 1 2, [1]) = false ∧
    (s.w.mem (s.w.hdr 2).data).take (s.w.hdr 2).size = [.obj .husk, .obj (.val 7), .obj (.val 8)] ∧
    (s.w.mem (s.w.hdr 1).data).take (s.w.hdr 1).size = [.obj (.val 6), .obj (.val 2), .obj (.val 3), .obj (.val 4)] := by decide +kernel
example : let s := run Ex.cfgT ⟨initWorld 2 3, []⟩ (exMA2.take 4)
    returned Ex.cfgT (run Ex.cfgT ⟨initWorld 2 3, []⟩ (exMA2.take 2)) (.moveAssign 2 0, [1]) = false ∧
    (s.w.hdr 2).data = (s.w.hdr 2).inl ∧ s.w.live = [] ∧
    (s.w.mem (s.w.hdr 2).data).take (s.w.hdr 2).size = [.obj .husk, .obj (.val 7)] := by decide +kernel
example : let s5 := run Ex.cfgT ⟨initWorld 2 3, []⟩ (exMA2.take 5)
    let s6 := run Ex.cfgT ⟨initWorld 2 3, []⟩ (exMA2.take 6)
    let s7 := run Ex.cfgT ⟨initWorld 2 3, []⟩ (exMA2.take 7)
    returned Ex.cfgT s5 (.moveAssign 0 3, [2]) = false ∧ s6.w.live = [] ∧ s6.w.hdr 0 = s5.w.hdr 0 ∧
    s7.w.live.length = 1 ∧ (s7.w.mem (s7.w.hdr 0).data).take (s7.w.hdr 0).size = [.obj .husk, .obj (.val 9), .obj (.val 10)] := by decide +kernel

/-- non-vacuity for copy assignment with a PROPAGATING allocator unequal to the destination's (allocator ids 1–4): into a
    block of the source's allocator (throwing: nothing changes; returning: the destination has the source's allocator);
    into the in-object buffer of a heap destination whose block is released; in place into an inline destination (a
    reallocation is needed and throws) -/
def cfgP : Cfg := { Ex.cfgT with pocca := true }
def exCA : List (MOp Int × List Nat) :=
  [(.ctorVals 0 1 [1, 2, 3, 4], []), (.ctorVals 1 2 [5], []), (.copyAssign 1 0, [2]), (.copyAssign 1 0, []),
   (.ctorVals 2 3 [6, 7], []), (.on 2 (.reserve 5), []), (.on 1 (.erase 0), []), (.on 1 (.erase 0), []),
   (.copyAssign 2 1, [1]), (.copyAssign 2 1, []),
   (.ctorVals 3 4 [9], []), (.copyAssign 3 0, [1]), (.copyAssign 3 1, []),
   (.dtor 0, []), (.dtor 1, []), (.dtor 2, []), (.dtor 3, [])]

example : copyAssignPropagating cfgP.policy = true ∧
    (run cfgP ⟨initWorld 2 3, []⟩ exCA).A = [] ∧ (run cfgP ⟨initWorld 2 3, []⟩ exCA).w.live = [] ∧ (run cfgP ⟨initWorld 2 3, []⟩ exCA).w.ub = [] := by decide +kernel
example : let s3 := run cfgP ⟨initWorld 2 3, []⟩ (exCA.take 3)
    let s4 := run cfgP ⟨initWorld 2 3, []⟩ (exCA.take 4)
    returned cfgP (run cfgP ⟨initWorld 2 3, []⟩ (exCA.take 2)) (.copyAssign 1 0, [2]) = false ∧ (s3.w.hdr 1).alloc = 2 ∧ s3.w.live = [5] ∧
    (s4.w.hdr 1).alloc = 1 ∧ s4.w.owner (s4.w.hdr 1).data = 1 ∧
    (s4.w.mem (s4.w.hdr 1).data).take (s4.w.hdr 1).size = [.obj (.val 1), .obj (.val 2), .obj (.val 3), .obj (.val 4)] := by decide +kernel
example : let s9 := run cfgP ⟨initWorld 2 3, []⟩ (exCA.take 9)
    let s10 := run cfgP ⟨initWorld 2 3, []⟩ (exCA.take 10)
    returned cfgP (run cfgP ⟨initWorld 2 3, []⟩ (exCA.take 8)) (.copyAssign 2 1, [1]) = false ∧ (s9.w.hdr 2).alloc = 3 ∧ s9.w.live.length = 3 ∧
    (s10.w.hdr 2).alloc = 1 ∧ (s10.w.hdr 2).data = (s10.w.hdr 2).inl ∧ s10.w.live.length = 2 ∧
    (s10.w.mem (s10.w.hdr 2).data).take (s10.w.hdr 2).size = [.obj (.val 3), .obj (.val 4)] := by decide +kernel

/-- non-vacuity for `swap_unequal_no_propagate` (allocators 1 and 2, unequal, not propagating): the reallocating path with
    the allocator refusing, with a throw while the elements are moved into the new block (two elements of the source
    moved-from, block given back), with a throw while the old elements are assigned over (the inner handler destroys the
    new block's elements: all five values are gone but both containers are valid, nothing leaked), then returning; then
    the element-wise paths in both orders -/
def exSU : List (MOp Int × List Nat) :=
  [(.ctorVals 0 1 [1, 2], []), (.ctorVals 1 2 [3, 4, 5, 6, 7], []),
   (.swap 0 1, [0]), (.swap 0 1, [3]), (.swap 0 1, [6]), (.swap 0 1, []),
   (.swap 0 1, []), (.on 0 (.popBack), []), (.swap 1 0, []),
   (.dtor 0, []), (.dtor 1, [])]

example : allocationsAreSwappable Ex.cfgT.policy = false ∧
    (run Ex.cfgT ⟨initWorld 2 3, []⟩ exSU).A = [] ∧ (run Ex.cfgT ⟨initWorld 2 3, []⟩ exSU).w.live = [] ∧ (run Ex.cfgT ⟨initWorld 2 3, []⟩ exSU).w.ub = [] := by decide +kernel
example : let s2 := run Ex.cfgT ⟨initWorld 2 3, []⟩ (exSU.take 2)
    let s3 := run Ex.cfgT ⟨initWorld 2 3, []⟩ (exSU.take 3)
    let s4 := run Ex.cfgT ⟨initWorld 2 3, []⟩ (exSU.take 4)
    let s5 := run Ex.cfgT ⟨initWorld 2 3, []⟩ (exSU.take 5)
    let s6 := run Ex.cfgT ⟨initWorld 2 3, []⟩ (exSU.take 6)
    returned Ex.cfgT s2 (.swap 0 1, [0]) = false ∧ returned Ex.cfgT s3 (.swap 0 1, [3]) = false ∧ returned Ex.cfgT s4 (.swap 0 1, [6]) = false ∧
    s3.w.mem (s3.w.hdr 1).data = s2.w.mem (s2.w.hdr 1).data ∧ s3.w.live = [5] ∧ s4.w.live = [5] ∧ s5.w.live = [5] ∧
    (s4.w.mem (s4.w.hdr 1).data).take (s4.w.hdr 1).size = [.obj .husk, .obj .husk, .obj (.val 5), .obj (.val 6), .obj (.val 7)] ∧
    (s5.w.mem (s5.w.hdr 1).data).take (s5.w.hdr 1).size = [.obj .husk, .obj .husk, .obj .husk, .obj .husk, .obj .husk] ∧
    (s5.w.mem (s5.w.hdr 0).data).take (s5.w.hdr 0).size = [.obj (.val 1), .obj (.val 2)] ∧
    (s6.w.hdr 0).alloc = 1 ∧ s6.w.owner (s6.w.hdr 0).data = 1 ∧ (s6.w.hdr 0).size = 5 ∧
    (s6.w.mem (s6.w.hdr 1).data).take (s6.w.hdr 1).size = [.obj (.val 1), .obj (.val 2)] := by decide +kernel

/-- non-vacuity for the allocator-extended move constructor: equal allocator (the heap buffer is stolen), unequal allocator
    (a heap source is NOT stolen: elements are moved one by one into a block of the supplied allocator; first with a throw
    after one element: block given back, the source keeps five constructed elements) -/
def exMCA : List (MOp Int × List Nat) :=
  [(.ctorVals 0 1 [1, 2, 3, 4], []), (.ctorMoveAlloc 2 0 1, []), (.ctorVals 1 2 [5, 6, 7, 8, 9], []), (.ctorMoveAlloc 3 1 7, [2]), (.ctorMoveAlloc 3 1 7, []),
   (.dtor 0, []), (.dtor 1, []), (.dtor 2, []), (.dtor 3, [])]

example : ctorMoveAllocDelegates Ex.cfgT.policy = false ∧
    (run Ex.cfgT ⟨initWorld 2 3, []⟩ exMCA).A = [] ∧ (run Ex.cfgT ⟨initWorld 2 3, []⟩ exMCA).w.live = [] ∧ (run Ex.cfgT ⟨initWorld 2 3, []⟩ exMCA).w.ub = [] := by decide +kernel
example : let s1 := run Ex.cfgT ⟨initWorld 2 3, []⟩ (exMCA.take 1)
    let s2 := run Ex.cfgT ⟨initWorld 2 3, []⟩ (exMCA.take 2)
    let s4 := run Ex.cfgT ⟨initWorld 2 3, []⟩ (exMCA.take 4)
    let s5 := run Ex.cfgT ⟨initWorld 2 3, []⟩ (exMCA.take 5)
    (s2.w.hdr 2).data = (s1.w.hdr 0).data ∧ (s2.w.hdr 2).alloc = 1 ∧ (s2.w.hdr 0).size = 0 ∧
    returned Ex.cfgT (run Ex.cfgT ⟨initWorld 2 3, []⟩ (exMCA.take 3)) (.ctorMoveAlloc 3 1 7, [2]) = false ∧ s4.A = [1, 2, 0] ∧ s4.w.live.length = 2 ∧
    (s5.w.hdr 3).alloc = 7 ∧ s5.w.owner (s5.w.hdr 3).data = 7 ∧ (s5.w.hdr 3).data ≠ (s4.w.hdr 1).data ∧ (s5.w.hdr 1).size = 5 := by decide +kernel

/-- non-vacuity for `append (other)` / `append (std::move (other))`: copying mode (copyable type with a throwing move:
    a throw leaves both operands as they were), moving mode with a nothrow move (only the allocator can fail: nothing
    changed), moving mode for a type that cannot be copied and whose move may throw (a throw half-way leaves the source with
    moved-from elements, both containers valid, sizes unchanged); in place and reallocating -/
def exApp : List (MOp Int × List Nat) :=
  [(.ctorVals 0 0 [1, 2], []), (.ctorVals 2 0 [3, 4, 5], []), (.append 2 0, [1]), (.append 2 0, []),
   (.appendMove 0 2, [3]), (.appendMove 0 2, []), (.on 2 (.pushBack 9), []), (.appendMove 2 0, []),
   (.dtor 0, []), (.dtor 2, [])]
def cfgNC : Cfg := { Ex.cfgT with hasCopy := false }
def cfgNT : Cfg := { }

example : relocateWithMove Ex.cfgT.policy = false ∧ relocateWithMove cfgNC.policy = true ∧ relocateWithMove cfgNT.policy = true ∧
    cfgNT.tMove = false ∧ cfgNC.tMove = true := by decide
example : (run Ex.cfgT ⟨initWorld 2 3, []⟩ exApp).A = [] ∧ (run Ex.cfgT ⟨initWorld 2 3, []⟩ exApp).w.live = [] ∧ (run Ex.cfgT ⟨initWorld 2 3, []⟩ exApp).w.ub = [] ∧
    (run cfgNC ⟨initWorld 2 3, []⟩ exApp).A = [] ∧ (run cfgNC ⟨initWorld 2 3, []⟩ exApp).w.live = [] ∧ (run cfgNC ⟨initWorld 2 3, []⟩ exApp).w.ub = [] ∧
    (run cfgNT ⟨initWorld 2 3, []⟩ exApp).A = [] ∧ (run cfgNT ⟨initWorld 2 3, []⟩ exApp).w.live = [] ∧ (run cfgNT ⟨initWorld 2 3, []⟩ exApp).w.ub = [] := by decide +kernel
/-- copying mode: the 5th call throws and the source (container 2) is untouched; the 6th returns -/
example : let s4 := run Ex.cfgT ⟨initWorld 2 3, []⟩ (exApp.take 4)
    let s5 := run Ex.cfgT ⟨initWorld 2 3, []⟩ (exApp.take 5)
    let s6 := run Ex.cfgT ⟨initWorld 2 3, []⟩ (exApp.take 6)
    returned Ex.cfgT s4 (.appendMove 0 2, [3]) = false ∧
    (s4.w.mem (s4.w.hdr 2).data).take (s4.w.hdr 2).size = [.obj (.val 3), .obj (.val 4), .obj (.val 5), .obj (.val 1), .obj (.val 2)] ∧
    s5.w.mem (s5.w.hdr 2).data = s4.w.mem (s4.w.hdr 2).data ∧ s5.w.hdr 0 = s4.w.hdr 0 ∧ s5.w.hdr 2 = s4.w.hdr 2 ∧ s5.w.live = s4.w.live ∧
    (s6.w.mem (s6.w.hdr 0).data).take (s6.w.hdr 0).size =
      [.obj (.val 1), .obj (.val 2), .obj (.val 3), .obj (.val 4), .obj (.val 5), .obj (.val 1), .obj (.val 2)] ∧
    (s6.w.hdr 2).size = 0 := by decide +kernel
/-- moving mode, move may throw: the 5th call throws after two moves — the source keeps five constructed elements, two of
    them moved-from; the destination is as before -/
example : let s4 := run cfgNC ⟨initWorld 2 3, []⟩ (exApp.take 4)
    let s5 := run cfgNC ⟨initWorld 2 3, []⟩ (exApp.take 5)
    returned cfgNC s4 (.appendMove 0 2, [3]) = false ∧ s5.w.hdr 0 = s4.w.hdr 0 ∧ s5.w.hdr 2 = s4.w.hdr 2 ∧ s5.w.live = s4.w.live ∧
    (s5.w.mem (s5.w.hdr 2).data).take (s5.w.hdr 2).size = [.obj .husk, .obj .husk, .obj (.val 5), .obj (.val 1), .obj (.val 2)] ∧
    (s5.w.mem (s5.w.hdr 0).data).take (s5.w.hdr 0).size = [.obj (.val 1), .obj (.val 2)] := by decide +kernel
/-- moving mode, nothrow move: the only fault point is the allocation (index 0; with index 1 the call returns), and the
    failed call changed neither operand -/
example : let s4 := run cfgNT ⟨initWorld 2 3, []⟩ (exApp.take 4)
    returned cfgNT s4 (.appendMove 0 2, [0]) = false ∧ returned cfgNT s4 (.appendMove 0 2, [1]) = true ∧
    (step cfgNT s4 (.appendMove 0 2, [0])).w.mem (s4.w.hdr 0).data = s4.w.mem (s4.w.hdr 0).data ∧
    (step cfgNT s4 (.appendMove 0 2, [0])).w.mem (s4.w.hdr 2).data = s4.w.mem (s4.w.hdr 2).data ∧
    (step cfgNT s4 (.appendMove 0 2, [0])).w.hdr 0 = s4.w.hdr 0 ∧ (step cfgNT s4 (.appendMove 0 2, [0])).w.hdr 2 = s4.w.hdr 2 := by decide +kernel

end SvModel.System
