/-
Calls that must do NOTHING (C10: "reserve (n) … is a no-op when n <= capacity ()"; std::vector: erase of an empty range,
insert of zero copies, resize to the current size, shrink_to_fit of a container that is inlined or exactly full): the
model's run returns the SAME WORLD — no event, no fault point consumed, no header or memory change — for every world.
Matched against the generated guards by `rfl`-equations.
-/
import SvModel.Ops
import SvModel.Proofs.Hoare
import SvModel.Proofs.Kernel
import SvModel.Proofs.GuardEqs

namespace SvModel.NoOps
open SvModel Gen
variable {α : Type}

theorem reserve_noop (cfg : Cfg) (c n : Nat) (w : World α) (h : n ≤ (w.hdr c).cap) : requestCapacity cfg c n w = .ok () w := by
  unfold requestCapacity
  rw [getV_bind, guard_requestCapacity_0_eq, if_pos (decide_eq_true h)]
  rfl

theorem insert_zero_noop (cfg : Cfg) (c pos : Nat) (s : Src α) (w : World α) : insertCopies cfg c pos 0 s w = .ok pos w := by
  unfold insertCopies
  rw [getV_bind, guard_insertCopies_0_eq, if_pos (decide_eq_true rfl)]
  rfl

theorem erase_empty_range_noop (cfg : Cfg) (c p : Nat) (w : World α) : eraseRange cfg c p p w = .ok p w := by
  unfold eraseRange
  rw [getV_bind, guard_eraseRange_0_eq, Nat.sub_self, if_neg (by decide)]
  rfl

/-- resize (n) / resize (n, x) with n = size () ≥ 1 -/
theorem resize_same_noop (cfg : Cfg) (c : Nat) (s : Src α) (w : World α) (hne : (w.hdr c).size ≠ 0) (hle : (w.hdr c).size ≤ (w.hdr c).cap) :
    resizeWith cfg c (w.hdr c).size s w = .ok () w := by
  unfold resizeWith
  rw [guard_resizeWith_0_eq, if_neg (by rw [decide_eq_true_eq]; exact hne), pure_bind_run, getV_bind,
    guard_resizeWith_1_eq, guard_resizeWith_3_eq, if_neg (by rw [decide_eq_true_eq]; omega),
    if_neg (by rw [decide_eq_true_eq]; omega)]
  unfold eraseToEnd
  rw [getV_bind, guard_eraseToEnd_0_eq, Nat.sub_self, if_neg (by decide)]
  rfl

theorem shrink_to_fit_noop (cfg : Cfg) (c : Nat) (w : World α)
    (h : (w.hdr c).cap ≤ (w.hdr c).N ∨ (w.hdr c).size = (w.hdr c).cap) : shrinkToSize cfg c w = .ok () w := by
  unfold shrinkToSize
  rw [getV_bind, guard_shrinkToSize_0_eq, if_pos]
  · rfl
  · rcases h with h | h
    · rw [decide_eq_false (Nat.not_lt.mpr h)]
      rfl
    · rw [decide_eq_true h, Bool.or_true]

end SvModel.NoOps
