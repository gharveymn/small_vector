/-
C18 — noexcept and type-trait contract is exactly as documented and is truthful.

(a) `noexcept_documented`: the value of every noexcept expression of the public special members, as evaluated by the
    compiler on the real header over the full grid of element traits x inline capacity x allocator kinds
    (`Gen.nxTable`, regenerated on every run), equals the README's documented condition (`documented`).
(b) `noexcept_flags_as_modelled`: the internal functions that carry an unconditional `noexcept` in the source
    (`Gen.noexceptFlags`, regenerated from the header text) are exactly the ones listed here, and each of their L2 model
    counterparts has no throwing path (`*_nothrow` theorems, for every world and fault list).  Adding `noexcept` to a
    function with a throwing path (e.g. request_capacity) changes the generated flag list and breaks (b).
(c) that exceptions of non-noexcept operations reach the caller instead of terminating is observed on the real code:
    the differential run executes every fault index with a std::terminate trap (harness), see the evidence.
-/
import SvModel.Gen.NoexceptTable
import SvModel.Gen.NoexceptFlags
import SvModel.Proofs.AppendN
import SvModel.Proofs.NoThrowCond

namespace SvModel.C18
open SvModel.Gen
variable {α : Type}

def b01 (b : Bool) : Nat := if b then 1 else 0

/-- the README's conditions (README.md "construction", "assignment", "swap", observers), in the order of `Gen.nxExprs` -/
def documented (r : NxRow) : List Nat :=
  let movable := r.isStd || r.pocma || r.ae
  let swappable := r.isStd || r.pocs || r.ae
  let moveAssign := movable && ((r.ma && r.mc) || r.N == 0)
  let swp := swappable && ((r.mc && r.ma && r.sw) || r.N == 0)
  [ b01 r.dn,                              -- small_vector ()            noexcept (noexcept (allocator_type ()))
    b01 (r.mc || r.N == 0),                -- small_vector (small_vector&&)
    1,                                     -- small_vector (const allocator_type&)
    b01 moveAssign,                        -- operator= (small_vector&&)
    b01 moveAssign,                        -- assign (small_vector&&)
    b01 swp,                               -- swap (small_vector&)
    b01 swp,                               -- non-member swap: noexcept (noexcept (lhs.swap (rhs)))
    1,                                     -- clear ()
    1,                                     -- observers: size, capacity, max_size, empty, data, get_allocator, begin … crend, inlined, inlinable, inline_capacity
    0,                                     -- small_vector (small_vector<T, GreaterI, A>&&): potentially throwing
    0,                                     -- assign (small_vector<T, GreaterI, A>&&)
    0,                                     -- copy constructor
    if r.N == 0 then 2 else b01 r.mc,      -- small_vector (small_vector<T, LessI, A>&&)
    if r.N == 0 then 2 else b01 (movable && r.ma && r.mc),   -- assign (small_vector<T, LessI, A>&&)
    1 ]                                    -- iterators trivially copyable, random access (contiguous in C++20); nested types as documented

theorem noexcept_documented : nxTable.all (fun r => r.vals == documented r) = true := by decide +kernel

/-- the modelled internal functions that are unconditionally noexcept in the source -/
def expectedAlways : List (String × Nat) :=
  [("destroy", 0), ("destroy", 1), ("destroy", 2), ("destroy_range", 0), ("destroy_range", 1),
   ("uninitialized_copy", 0), ("uninitialized_copy", 1), ("construct", 0), ("get_max_size", 0),
   ("move_allocation_pointer", 0), ("move_assign_default", 0), ("move_initialize", 0), ("swap", 0),
   ("copy_n_return_in", 0), ("copy_n_return_in", 1)]

theorem noexcept_flags_as_modelled :
    (noexceptFlags.filter (fun r => r.2.2 == .always)).map (fun r => (r.1, r.2.1)) = expectedAlways := by decide +kernel

/-! model counterparts of the unconditionally-noexcept functions have no throwing path -/
theorem destroy_nothrow (c : Cfg) (b i : Nat) : NoThrow (destroyAt c b i : M α Unit) := destroyAt_nothrow c b i

theorem destroy_range_nothrow (c : Cfg) (b first n : Nat) : NoThrow (destroyRange c b first n : M α Unit) :=
  destroyRange_nothrow c b n first

theorem wipe_nothrow (cfg : Cfg) (c : Nat) : NoThrow (wipe cfg c : M α Unit) := SvModel.wipe_nothrow cfg c

/-- move_allocation_pointer (noexcept): reset_data + set_default -/
theorem move_allocation_pointer_nothrow (cfg : Cfg) (c o : Nat) : NoThrow (moveAllocationPointer cfg c o : M α Unit) :=
  moveAllocationPointer_nothrow cfg c o

/-- clear () is documented noexcept: erase_all never throws -/
theorem clear_nothrow (cfg : Cfg) (c : Nat) : NoThrow (eraseAll cfg c : M α Unit) := by
  intro w
  unfold eraseAll
  rw [getV_bind, setSize_bind]
  exact destroyRange_nothrow cfg _ _ _ _

/-- swap for inline capacity 0 with swappable allocators (noexcept): only the headers are exchanged -/
theorem swap_allocation_nothrow (c o : Nat) : NoThrow (swapAllocation c o : M α Unit) := swapAllocation_nothrow c o

/-- the modelled internal functions whose `noexcept` is CONDITIONAL in the source (on the element type's nothrow traits) -/
def expectedConditional : List (String × Nat) :=
  [("construct", 1), ("construct", 2), ("uninitialized_move", 0), ("uninitialized_move", 1), ("move_assign_default", 1),
   ("move_assign", 0), ("move_initialize", 1), ("swap_elements", 0), ("swap_default", 0), ("swap", 1)]

theorem noexcept_conditional_flags_as_modelled :
    (noexceptFlags.filter (fun r => r.2.2 == .conditional)).map (fun r => (r.1, r.2.1)) = expectedConditional := by decide +kernel

/-- … and when the condition holds (move construction and move assignment of the element type cannot throw) their model
    counterparts have NO throwing path, for every world and fault list — in particular none of them allocates:
    uninitialized_move, swap_elements, swap_default, and the overloads of move_initialize / move_assign_default for a
    source whose inline capacity is not larger -/
theorem conditional_noexcept_nothrow (cfg : Cfg) (h1 : cfg.tMove = false) (h2 : cfg.tMasg = false) :
    (∀ sb si n db di, NoThrow (uninitializedMove cfg false sb si n db di : M α Unit)) ∧
    (∀ c o, NoThrow (swapElements cfg c o : M α Unit)) ∧
    (∀ c o, NoThrow (swapDefault cfg c o : M α Unit)) ∧
    (∀ c o (w : World α), (w.hdr o).N ≤ (w.hdr c).N → ∃ b w', moveInitialize cfg c o w = .ok b w') ∧
    (∀ c o (w : World α), (w.hdr o).N ≤ (w.hdr c).N → ∃ b w', moveAssignDefault cfg c o w = .ok b w') :=
  ⟨fun sb si n db di => uninitializedMove_nothrow cfg h1 sb si n db di, fun c o => swapElements_nothrow cfg h1 h2 c o,
   fun c o => swapDefault_nothrow cfg h1 h2 c o, fun c o w h => moveInitialize_le_nothrow cfg h1 c o w h,
   fun c o w h => moveAssignDefault_le_nothrow cfg h1 h2 c o w h⟩

/-- non-vacuity: the all-nothrow element flavour satisfies the condition; a flavour with a throwing move does not -/
example : ({ copyThrows := false, moveThrows := false, casgThrows := false, masgThrows := false } : Cfg).tMove = false ∧
    ({ copyThrows := false, moveThrows := false, casgThrows := false, masgThrows := false } : Cfg).tMasg = false ∧
    ({ moveThrows := true } : Cfg).tMove = true := by decide

/-- non-vacuity of the table: it has rows of every kind -/
example : nxTable.length = 96 ∧ (nxTable.filter (fun r => r.N == 0)).length = 48 ∧ (nxTable.filter (fun r => r.isStd)).length = 16 := by decide

end SvModel.C18
