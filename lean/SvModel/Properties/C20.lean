/-
C20 — Shipped debugger visualisers show the true size, capacity and elements.

`Gen.classTable` is the class graph of instantiations of `small_vector` (inline capacity > 0 and = 0, empty-base and
stateful allocator) and of its iterator, as gdb reads it from the debug information of a program compiled against the
real header; `Gen.pyRoot / pyFirstFieldIndex / pyMembers / pyIteratorMembers / natvisPaths` are the member names and
positions that prettyprinter.py and small_vector.natvis use, read from their sources.  Both are regenerated on every run.
Theorems (the printer's lookups by evaluation in the kernel; the natvis paths `m_data.<member>` because they name the members
the printer reads, `resolve_of_py`): every path the visualisers walk resolves, in every instantiation, to the data
members that hold the begin pointer, the size and the capacity — a rename, a re-basing of the data members or a change
of the first base breaks them.  `printer_view_spec` pins what the printer's view means on the L2 header.
That the printer then prints the right text is observed by running gdb with the shipped printer on a program with
containers in 15 states and 3 iterators and comparing with what size (), capacity () and iteration report.
-/
import SvModel.Gen.ClassShape
import SvModel.Proofs.Inv

namespace SvModel.C20
open SvModel.Gen

def fieldsOf (c : String) : List Fld := ((classTable.find? (fun p => p.1 == c)).map (·.2)).getD []

/-- member lookup as a debugger does it: own fields first, then base classes (depth-first), bounded by `fuel` -/
def findMember : Nat → String → String → Option Fld
  | 0, _, _ => none
  | fuel+1, c, m =>
    match (fieldsOf c).find? (fun f => !f.isBase && f.name == m) with
    | some f => some f
    | none => (fieldsOf c).filter (·.isBase) |>.findSome? (fun b => findMember fuel b.cls m)

/-- resolve a dotted path starting in class `c`; returns the last field -/
def resolve (fuel : Nat) : String → List String → Option Fld
  | _, [] => none
  | c, [m] => findMember fuel c m
  | c, m :: rest => (findMember fuel c m).bind (fun f => resolve fuel f.cls rest)

/-- prettyprinter.py: val['m_data'], cast to the type of its FIRST field — which must be a base class — and read
    m_data_ptr / m_size / m_capacity there, as non-static data members -/
def pyResolves (root : String) : Bool :=
  match findMember 8 root pyRoot with
  | none => false
  | some d =>
    match (fieldsOf d.cls)[pyFirstFieldIndex]? with
    | none => false
    | some b => b.isBase && pyMembers.all (fun m =>
        match (fieldsOf b.cls).find? (fun f => f.name == m) with
        | some f => !f.isBase && !f.isStatic
        | none => false)

theorem printer_paths_resolve : containerRoots.all pyResolves = true := by decide +kernel

theorem printer_expects_three_members : pyMembers = ["m_capacity", "m_data_ptr", "m_size"] ∧ pyRoot = "m_data" := by decide

theorem iterator_printer_resolves :
    iteratorRoots.all (fun r => pyIteratorMembers.all (fun m => (findMember 4 r m).isSome)) = true := by decide +kernel

theorem find?_and {β} (q p : β → Bool) : ∀ (l : List β) (a : β), l.find? p = some a → q a = true →
    l.find? (fun x => q x && p x) = some a
  | [], _, h, _ => by cases h
  | x :: l, a, h, hq => by
    rw [List.find?_cons] at h ⊢
    cases hp : p x
    · rw [hp] at h; simp only [Bool.and_false]; exact find?_and q p l a h hq
    · rw [hp] at h; cases h; simp only [hq, Bool.and_true]

/-- a member that the printer finds — in the first field of `m_data`'s class, a base class — is found by the debugger's
    own lookup from the container class through the path `m_data.<member>` -/
theorem resolve_of_py (root m : String) (d b f : Fld) (hd : findMember 8 root pyRoot = some d)
    (hb : (fieldsOf d.cls)[pyFirstFieldIndex]? = some b) (hbase : b.isBase = true)
    (hf : (fieldsOf b.cls).find? (fun f => f.name == m) = some f) (hnb : f.isBase = false) :
    (resolve 8 root ["m_data", m]).isSome = true := by
  have hroot : pyRoot = "m_data" := rfl
  -- the printer casts to the type of the FIRST field; the list-head step below depends on that index being 0
  have hfirst : pyFirstFieldIndex = 0 := rfl
  rw [hroot] at hd
  rw [hfirst] at hb
  show ((findMember 8 root "m_data").bind (fun f => resolve 8 f.cls [m])).isSome = true
  rw [hd]
  show (findMember 8 d.cls m).isSome = true
  have hown : (fieldsOf b.cls).find? (fun f : Fld => !f.isBase && f.name == m) = some f :=
    find?_and (fun f : Fld => !f.isBase) _ _ f hf (by rw [hnb]; rfl)
  have hin : findMember 7 b.cls m = some f := by
    show (match (fieldsOf b.cls).find? (fun f : Fld => !f.isBase && f.name == m) with
          | some f => some f
          | none => _) = some f
    rw [hown]
  show (match (fieldsOf d.cls).find? (fun f : Fld => !f.isBase && f.name == m) with
        | some f => some f
        | none => (fieldsOf d.cls).filter (fun f : Fld => f.isBase) |>.findSome? (fun b : Fld => findMember 7 b.cls m)).isSome = true
  cases (fieldsOf d.cls).find? (fun f : Fld => !f.isBase && f.name == m) with
  | some g => rfl
  | none =>
    obtain ⟨rest, hl⟩ : ∃ rest, fieldsOf d.cls = b :: rest := by
      cases h : fieldsOf d.cls with
      | nil => rw [h] at hb; cases hb
      | cons x rest => rw [h] at hb; cases hb; exact ⟨rest, rfl⟩
    show (((fieldsOf d.cls).filter (fun f : Fld => f.isBase)).findSome? (fun b : Fld => findMember 7 b.cls m)).isSome = true
    rw [hl, List.filter_cons_of_pos hbase, List.findSome?_cons, hin]
    rfl

/-- natvis: m_data.m_capacity, m_data.m_size, m_data.m_data_ptr resolve in every container instantiation;
    inline_capacity_v is a static data member of small_vector (from the header text: g++ omits unused static constexpr members
    from the debug information); m_alloc resolves when the allocator is not empty-base-optimised; m_ptr resolves in the iterator -/
theorem natvis_paths_resolve :
    containerRoots.all (fun r =>
      (natvisPaths.filter (fun p => p.head? == some "m_data")).all (fun p => (resolve 8 r p).isSome)) = true ∧
    staticMembers.contains "inline_capacity_v" = true ∧
    nonEboRoots.all (fun r => (resolve 8 r ["m_alloc"]).isSome) = true ∧
    iteratorRoots.all (fun r => (resolve 4 r ["m_ptr"]).isSome) = true := by
  refine ⟨?_, by decide +kernel, by decide +kernel, by decide +kernel⟩
  -- the `m_data.…` paths name the members the printer reads
  have hpaths : (natvisPaths.filter (fun p => p.head? == some "m_data")).all
      (fun p => pyMembers.any (fun m => p == ["m_data", m])) = true := by decide +kernel
  rw [List.all_eq_true]
  intro r hr
  have hp := List.all_eq_true.mp printer_paths_resolve r hr
  rw [List.all_eq_true]
  intro p hpm
  obtain ⟨m, hm, hpe⟩ := List.any_eq_true.mp (List.all_eq_true.mp hpaths p hpm)
  rw [eq_of_beq hpe]
  unfold pyResolves at hp
  cases hd : findMember 8 r pyRoot with
  | none => rw [hd] at hp; cases hp
  | some d =>
    rw [hd] at hp
    simp only [] at hp
    cases hb : (fieldsOf d.cls)[pyFirstFieldIndex]? with
    | none => rw [hb] at hp; cases hp
    | some b =>
      rw [hb] at hp
      simp only [] at hp
      obtain ⟨hbase, hall⟩ := Bool.and_eq_true_iff.mp hp
      have hmem := List.all_eq_true.mp hall m hm
      cases hf : (fieldsOf b.cls).find? (fun f => f.name == m) with
      | none => rw [hf] at hmem; cases hmem
      | some f =>
        rw [hf] at hmem
        simp only [] at hmem
        have hnb : f.isBase = false := by
          have := (Bool.and_eq_true_iff.mp hmem).1
          simpa using this
        exact resolve_of_py r m d b f hd hb hbase hf hnb

/-- every natvis path is one of the above (nothing else is referenced by the visualiser) -/
theorem natvis_paths_known :
    natvisPaths.all (fun p => p.head? == some "m_data" || p == ["inline_capacity_v"] || p == ["m_alloc"] || p == ["m_ptr"]) = true := by decide

/-- what the printer shows, on the L2 header: (length, capacity, the first `size` slots of the data block) -/
def view {α} (w : World α) (c : Nat) : Nat × Nat × List (Slot α) :=
  ((w.hdr c).size, (w.hdr c).cap, (w.mem (w.hdr c).data).take (w.hdr c).size)

theorem printer_view_spec {α} (w : World α) (c : Nat) (xs : List (Val α)) (h : Holds w c xs) :
    (view w c).1 = xs.length ∧ (view w c).2.2 = xs.map Slot.obj := by
  refine ⟨h.1.symm, ?_⟩
  apply List.ext_getElem?
  intro i
  simp only [view, List.getElem?_take, List.getElem?_map]
  by_cases hi : i < xs.length
  · have hs : i < (w.hdr c).size := by rw [← h.1]; exact hi
    rw [if_pos hs, h.2 i hi, List.getElem?_eq_getElem hi]
    rfl
  · have hs : ¬ i < (w.hdr c).size := by rw [← h.1]; exact hi
    rw [if_neg hs, List.getElem?_eq_none (by omega)]
    rfl

end SvModel.C20
