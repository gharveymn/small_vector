/-
C09 / C02 at the system level: a stealing move construction or move assignment inside a system of containers leaves a
valid system — the destination holds exactly what the source held and owns its block, the source is a valid, EMPTY,
inlined container that can be reused, every other container is untouched, no block is leaked or owned twice, no
element was constructed, assigned or destroyed except the destination's old elements (move assignment) — and nothing
can throw.
-/
import SvModel.Properties.C09
import SvModel.Proofs.Steal

namespace SvModel.C09
open SvModel Gen
variable {α : Type}

theorem hdr_ext2 {h1 h2 : Nat → Vec} (c o : Nat) (hc : h1 c = h2 c) (ho : h1 o = h2 o)
    (hr : ∀ x, x ≠ c → x ≠ o → h1 x = h2 x) : h1 = h2 := by
  funext x
  by_cases hxc : x = c
  · rw [hxc, hc]
  · by_cases hxo : x = o
    · rw [hxo, ho]
    · exact hr x hxc hxo

theorem handOver_eq_adopt (w : World α) (c o : Nat) (hne : c ≠ o) :
    handOver (ctorMovePre w c o) c o = adoptW w c o (w.hdr o).alloc := by
  have hne' : o ≠ c := hne.symm
  unfold handOver ctorMovePre adoptW
  simp only [upd_same, upd_other _ _ _ _ hne']
  congr 1
  apply hdr_ext2 c o
  · simp [upd_other _ _ _ _ hne]
  · simp
  · intro x hxc hxo
    simp [upd_other _ _ _ _ hxo, upd_other _ _ _ _ hxc]

/-- MOVE CONSTRUCTION, stealing permitted (source on the heap with capacity above the new container's inline capacity):
    returns, O(1); the new container joins the system holding the source's values in the source's old block; the source
    is valid, empty and inlined; all other containers, the memory, the ledger are untouched -/
theorem move_ctor_steals_sys (cfg : Cfg) (w : World α) (U A : List Nat) (c o : Nat) (hs : SysAll cfg w U A)
    (hcU : c ∈ U) (hcA : c ∉ A) (ho : o ∈ A) (h : StealAllowed (w.hdr c) (w.hdr o)) :
    ∃ w', ctorMove cfg c o w = .ok () w' ∧ SysAll cfg w' U (c :: A) ∧
      (∀ xs, Holds w o xs → Holds w' c xs) ∧ Holds w' o [] ∧ (w'.hdr c).data = (w.hdr o).data ∧
      (∀ d ∈ A, d ≠ o → w'.hdr d = w.hdr d) ∧ w'.mem = w.mem ∧ w'.live = w.live ∧ w'.trace = w.trace := by
  have hne : c ≠ o := fun e => hcA (e ▸ ho)
  have had := hs.adopt hcU hcA ho h.1 h.2 (w.hdr o).alloc rfl
  refine ⟨_, move_ctor_steals cfg c o hne w h, ?_⟩
  rw [handOver_eq_adopt w c o hne]
  refine ⟨had.1, had.2.1, had.2.2.1, ?_, had.2.2.2.1, had.2.2.2.2, rfl, rfl⟩
  unfold adoptW
  simp [upd_other _ _ _ _ hne]

/-- the header rewrite performed by a stealing move assignment after the destination has been wiped -/
theorem stealAssign_tail (c o a' : Nat) (hne : c ≠ o) (w0 w1 : World α) (hh : w1.hdr = w0.hdr) :
    (setData c (w0.hdr o).data (w0.hdr o).cap (w0.hdr o).size >>= fun _ => setDefault o >>= fun _ => setAlloc c a') w1 =
      .ok () (adoptW w1 c o a') := by
  have hne' : o ≠ c := hne.symm
  show Res.ok () { w1 with hdr := upd (upd (upd (upd w1.hdr c _) o _) o _) c _ } = Res.ok () { w1 with hdr := upd (upd w1.hdr c _) o _ }
  congr 2
  dsimp only
  apply hdr_ext2 c o
  · simp only [upd_same, upd_other _ _ _ _ hne, hh]
  · simp only [upd_same, upd_other _ _ _ _ hne', hh]
  · intro x hxc hxo
    simp only [upd_other _ _ _ _ hxc, upd_other _ _ _ _ hxo]

/-- MOVE ASSIGNMENT, stealing permitted and allocators interchangeable: returns; the destination's old elements are
    destroyed and its old block released, then it takes over the source's block; the system is valid again, the
    destination holds what the source held, the source is empty/inlined/valid, nobody else is touched.
    `hown`: the allocator the destination ends up with is the one that owns the block (it propagates, or the two
    compare equal). -/
theorem stealAssign_sys (cfg : Cfg) (w : World α) (U A : List Nat) (c o : Nat) (hs : SysAll cfg w U A)
    (hc : c ∈ A) (ho : o ∈ A) (hne : c ≠ o) (h : StealAllowed (w.hdr c) (w.hdr o))
    (hown : maybeMove cfg.policy (w.hdr c).alloc (w.hdr o).alloc = (w.hdr o).alloc) :
    ∃ w', stealAssign cfg c o w w = .ok () w' ∧ SysAll cfg w' U A ∧
      (∀ xs, Holds w o xs → Holds w' c xs) ∧ Holds w' o [] ∧ (w'.hdr c).data = (w.hdr o).data ∧
      (∀ d ∈ A, d ≠ o → d ≠ c → w'.hdr d = w.hdr d ∧ w'.mem (w.hdr d).data = w.mem (w.hdr d).data) := by
  have hne' : o ≠ c := fun e => hne e.symm
  unfold stealAssign
  have hd := SysAll.dtor hs hc
  unfold dtor at hd
  rw [bind_run]
  cases hr : wipe cfg c w with
  | thrown e w1 => rw [hr] at hd; exact hd.elim
  | ok u w1 =>
    rw [hr] at hd
    obtain ⟨hs1, hh1, hmem1⟩ := hd
    simp only []
    rw [hown, stealAssign_tail c o _ hne w w1 hh1]
    have hcA1 : c ∉ A.filter (· ≠ c) := fun hm => (mem_filter_ne.mp hm).2 rfl
    have ho1 : o ∈ A.filter (· ≠ c) := mem_filter_ne.mpr ⟨ho, hne'⟩
    have h1 : (w1.hdr o).N < (w1.hdr o).cap := by rw [hh1]; exact h.1
    have h2 : (w1.hdr c).N < (w1.hdr o).cap := by rw [hh1]; exact h.2
    have had := hs1.adopt (hs.sub c hc) hcA1 ho1 h1 h2 (w.hdr o).alloc (by rw [hh1])
    refine ⟨_, rfl, had.1.congr (fun x => (mem_cons_filter_ne_of_mem hc).symm), ?_, had.2.2.1, ?_, ?_⟩
    · intro xs hx
      exact had.2.1 xs (hx.of_mem_eq (by rw [hh1]) (hmem1 o ho hne'))
    · unfold adoptW
      simp [upd_other _ _ _ _ hne, hh1]
    · intro d hd hdo hdc
      have hd1 : d ∈ A.filter (· ≠ c) := mem_filter_ne.mpr ⟨hd, hdc⟩
      refine ⟨by rw [had.2.2.2.1 d hd1 hdo, hh1], ?_⟩
      rw [had.2.2.2.2]; exact hmem1 d hd hdc

/-- … stated for the whole `operator= (small_vector&&)` -/
theorem move_assign_steals_sys (cfg : Cfg) (w : World α) (U A : List Nat) (c o : Nat) (hs : SysAll cfg w U A)
    (hc : c ∈ A) (ho : o ∈ A) (hne : c ≠ o) (h : StealAllowed (w.hdr c) (w.hdr o))
    (hi : InterchangeableMove cfg (w.hdr c) (w.hdr o))
    (hown : maybeMove cfg.policy (w.hdr c).alloc (w.hdr o).alloc = (w.hdr o).alloc) :
    ∃ w', moveAssign cfg c o w = .ok () w' ∧ SysAll cfg w' U A ∧
      (∀ xs, Holds w o xs → Holds w' c xs) ∧ Holds w' o [] ∧ (w'.hdr c).data = (w.hdr o).data ∧
      (∀ d ∈ A, d ≠ o → d ≠ c → w'.hdr d = w.hdr d ∧ w'.mem (w.hdr d).data = w.mem (w.hdr d).data) := by
  rw [move_assign_steals cfg c o w h hi]
  exact stealAssign_sys cfg w U A c o hs hc ho hne h hown

end SvModel.C09
