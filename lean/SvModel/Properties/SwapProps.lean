/-
swap, property level (C01 / C02 / C06 / C09 for `swap`).

`swap_sys`           — `a.swap (b)` inside a system of containers (same type, allocators equal or propagating on swap —
                       the case the standard defines), for EVERY fault list: if it returns, the system is valid, `a` holds
                       exactly what `b` held and vice versa, nobody else changed, no block was allocated or released;
                       if it throws (an element move threw), the exception is the element's, the system is valid, both
                       containers hold some list of constructed elements, nobody else changed, nothing leaked.
`swap_both_heap_O1`  — when both containers own heap buffers the call cannot throw, performs no element operation and no
                       allocator call at all (the trace is unchanged), leaves the memory untouched and just exchanges the
                       buffers: every iterator/reference into either buffer stays valid and now belongs to the other
                       container (C09).
-/
import SvModel.Proofs.SwapSys
import SvModel.Properties.C09

namespace SvModel.SwapP
open SvModel Gen
variable {α : Type}

theorem swap_sys (cfg : Cfg) (w : World α) (U A : List Nat) (c o : Nat) (hs : SysAll cfg w U A)
    (hc : c ∈ A) (ho : o ∈ A) (hco : c ≠ o) (hN : (w.hdr c).N = (w.hdr o).N)
    (hnull : (w.hdr c).N = 0 → (w.hdr c).inl = (w.hdr o).inl) (hal : SwapAllocOK cfg w c o) :
    (SvModel.swap cfg c o w).sat
      (fun _ w' => SysAll cfg w' U A ∧ (∀ xs, Holds w o xs → Holds w' c xs) ∧ (∀ xs, Holds w c xs → Holds w' o xs) ∧
          (∀ d ∈ A, d ≠ c → d ≠ o → ∀ xs, Holds w d xs → Holds w' d xs) ∧ w'.live = w.live)
      (fun e w' => e = .elem ∧ SysAll cfg w' U A ∧ (∃ ys, Holds w' c ys) ∧ (∃ ys, Holds w' o ys) ∧
          (∀ d ∈ A, d ≠ c → d ≠ o → ∀ xs, Holds w d xs → Holds w' d xs) ∧ w'.live = w.live) :=
  SysAll.swap hs hc ho hco hN hnull hal

theorem swap_both_heap_O1 (cfg : Cfg) (w : World α) (c o : Nat) (hco : c ≠ o)
    (hch : (w.hdr c).N < (w.hdr c).cap) (hoh : (w.hdr o).N < (w.hdr o).cap)
    (hal : cfg.policy.pocs = true ∨ (w.hdr c).alloc = (w.hdr o).alloc) :
    ∃ w', SvModel.swap cfg c o w = .ok () w' ∧ w'.mem = w.mem ∧ w'.trace = w.trace ∧ w'.live = w.live ∧
      (w'.hdr c).data = (w.hdr o).data ∧ (w'.hdr o).data = (w.hdr c).data := by
  have hi : C09.InterchangeableSwap cfg (w.hdr c) (w.hdr o) :=
    hal.imp (fun h => by unfold allocationsAreSwappable; rw [h, Bool.or_true, Bool.true_or]) Eq.symm
  obtain ⟨w', h, hm, ht, _, _, hl, hd, _, _, hd', _⟩ := C09.swap_steals cfg c o hco w hch hoh hi
  exact ⟨w', h, hm, ht, hl, hd, hd'⟩

end SvModel.SwapP
