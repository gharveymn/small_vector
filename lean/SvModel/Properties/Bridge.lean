/-
The BRIDGE between the two places where calls are mapped to model programs:

 * `Api.opM` (Api.lean) — the program the svdriver runs for a line of the protocol; this is what the differential
   correspondence compares with the real header, line by line;
 * `System.MOp.run` / `History.SOp.run` — the call languages the history theorems (`reachable_sys`, `sys_refines_rel`,
   `step_tracks`, …) quantify over.

`bridge`: for every protocol call that has a counterpart in the history language (`toMOp`), the two programs are THE SAME
function of the world, up to the value returned to the printer.  So every theorem about valid histories of `MOp`s is a
theorem about the very programs whose behaviour is compared with the code on every run.  The equalities for the
constructors go through the GENERATED facts about which allocation primitive each constructor calls
(`Gen.ctor…Checked`): if the header switches one of them to `unchecked_allocate` the bridge no longer checks.
-/
import SvModel.Properties.System

namespace SvModel.Bridge
open SvModel Gen History SvModel.System

def forget {σ β : Type} : Res σ β → Res σ Unit
  | .ok _ s => .ok () s
  | .thrown e s => .thrown e s

/-- the driver wraps the value a call returns for the printer; the history language discards it -/
theorem forget_map {β γ : Type} (m : M Int β) (f : β → γ) (w : World Int) :
    forget ((m >>= fun b => (pure (f b) : M Int γ)) w) = (m >>= fun _ => (pure () : M Int Unit)) w := by
  rw [bind_run, bind_run]; cases m w <;> rfl

theorem forget_discard {γ : Type} (m : M Int Unit) (a : γ) (w : World Int) :
    forget ((m >>= fun _ => (pure a : M Int γ)) w) = m w := by
  rw [bind_run]; cases m w <;> rfl

/-- the history-language counterpart of a protocol call (none: an `insert` of an empty range, and the single-pass insert in the
    middle — calls the history languages do not have) -/
def toMOp (ac : ApiCfg) (s : Sys) : Op → Option (MOp Int)
  | .new x a => some (.ctorVals x a [])
  | .newv x n v a => some (.ctorVals x a (List.replicate n v))
  | .newr x .fw a vs => some (.ctorVals x a vs)
  | .newr x .inp a vs => some (.ctorInput x a s.nextStream vs)
  | .newg x a vs => some (.ctorVals x a vs)
  | .newc x y (some a) => some (.ctorCopy x y a)
  | .newc x y none => some (.ctorCopy x y ((s.w.hdr y).alloc + ac.socccShift))   -- select_on_container_copy_construction
  | .newm x y none => some (.ctorMove x y)
  | .newm x y (some a) => some (.ctorMoveAlloc x y a)
  | .del x => some (.dtor x)
  | .pb x (.ext v) => some (.on x (.pushBack v))
  | .pb x (.self i) => some (.on x (.pushBackSelf i))
  | .pbm x v => some (.on x (.pushBackMove v))
  | .newn x n a => some (.ctorCount x a n 0)
  | .ins x p (.ext v) => some (.on x (.insert p v))
  | .ins x p (.self i) => some (.on x (.insertSelf p i))
  | .insm x p v => some (.on x (.insertMove p v))
  | .insn x p n (.ext v) => some (.on x (.insertN p n v))
  | .insn x p n (.self i) => some (.on x (.insertNSelf p n i))
  | .insr x p .fw vs => if vs.isEmpty then none else some (.on x (.insertRange p vs))
  | .insr x p .inp vs =>      -- single-pass insert at end (): the append loop; in the middle: via a temporary container (C15 only)
      if vs.isEmpty then none else if p = (s.w.hdr x).size then some (.on x (.appendInput false s.nextStream vs)) else none
  | .asr x .inp vs => some (.on x (.assignInput s.nextStream vs))
  | .app x .inp vs => some (.on x (.appendInput true s.nextStream vs))
  | .era x p => some (.on x (.erase p))
  | .erar x p q => some (.on x (.eraseRange p q))
  | .pop x => some (.on x .popBack)
  | .clr x => some (.on x .clear)
  | .rsz x n => some (.on x (.resize n 0))
  | .rszv x n (.ext v) => some (.on x (.resizeVal n v))
  | .rszv x n (.self i) => some (.on x (.resizeSelf n i))
  | .rsv x n => some (.on x (.reserve n))
  | .stf x => some (.on x .shrinkToFit)
  | .asn x n v => some (.on x (.assign n v))
  | .asr x .fw vs => some (.on x (.assignRange vs))
  | .app x .fw vs => some (.on x (.append vs))
  | .asc x y => some (.copyAssign x y)
  | .asm x y => some (.moveAssign x y)
  | .swp x y => some (.swap x y)
  | .appc x y => some (.append x y)
  | .appm x y => some (.appendMove x y)
  | .at x i => some (.on x (.atIdx i))
  | .get x i => some (.on x (.index i))

/-- default construction IS range construction from an empty range (same program on every world) -/
theorem ctorDefault_eq_fill (cfg : Cfg) (c a : Nat) (ch : Bool) (w : World Int) :
    ctorDefault c a w = ctorFill cfg c a ch ([] : List (Src Int)) w :=
  ctorDefault_eq_fill' cfg c a ch w

/-- a single-pass `insert` has a counterpart only for a non-empty range at `end ()`: the append loop -/
theorem toMOp_insr_inp {ac : ApiCfg} {s : Sys} {x p : Nat} {vs : List Int} {m : MOp Int} (h : toMOp ac s (.insr x p .inp vs) = some m) :
    ¬ vs.isEmpty = true ∧ p = (s.w.hdr x).size ∧ m = .on x (.appendInput false s.nextStream vs) := by
  simp only [toMOp] at h
  by_cases he : vs.isEmpty = true
  · rw [if_pos he] at h; cases h
  · by_cases hp : p = (s.w.hdr x).size
    · rw [if_neg he, if_pos hp] at h; cases h; exact ⟨he, hp, rfl⟩
    · rw [if_neg he, if_neg hp] at h; cases h

theorem toMOp_insr_fw {ac : ApiCfg} {s : Sys} {x p : Nat} {vs : List Int} {m : MOp Int} (h : toMOp ac s (.insr x p .fw vs) = some m) :
    ¬ vs.isEmpty = true ∧ m = .on x (.insertRange p vs) := by
  simp only [toMOp] at h
  by_cases he : vs.isEmpty = true
  · rw [if_pos he] at h; cases h
  · rw [if_neg he] at h; cases h; exact ⟨he, rfl⟩

/-- the program the driver runs for a protocol line IS the program the history theorems are about -/
theorem bridge (ac : ApiCfg) (s : Sys) (op : Op) (m : MOp Int) (w0 : World Int) (hh : w0.hdr = s.w.hdr)
    (h : toMOp ac s op = some m) : forget (opM ac s op w0) = m.run ac.cfg w0 w0 := by
  cases op with
  | new x a => cases h; exact (forget_discard _ _ _).trans (ctorDefault_eq_fill ac.cfg x a true w0)
  | newn x n a =>
    cases h
    show forget ((ctorFill ac.cfg x a Gen.ctorCountChecked _ >>= fun _ => pure Out.none) w0) = ctorFill ac.cfg x a true _ w0
    exact forget_discard _ _ _
  | newv x n v a =>
    cases h
    show forget ((ctorFill ac.cfg x a Gen.ctorCountValueChecked _ >>= fun _ => pure Out.none) w0) =
      ctorFill ac.cfg x a true ((List.replicate n v).map Src.ext) w0
    rw [List.map_replicate]; exact forget_discard _ _ _
  | newr x k a vs =>
    cases k with
    | fw =>
      cases h
      show forget ((ctorFill ac.cfg x a Gen.ctorForwardRangeChecked _ >>= fun _ => pure Out.none) w0) = ctorFill ac.cfg x a true _ w0
      exact forget_discard _ _ _
    | inp => exact Option.some.inj h ▸ forget_discard _ _ _
  | newg x a vs =>
    cases h
    show forget ((ctorFill ac.cfg x a Gen.ctorGeneratorChecked _ >>= fun _ => pure Out.none) w0) = ctorFill ac.cfg x a true _ w0
    exact forget_discard _ _ _
  | newc x y a =>
    cases a with
    | none => exact Option.some.inj h ▸ forget_discard _ _ _
    | some a => exact Option.some.inj h ▸ forget_discard _ _ _
  | newm x y a =>
    cases a with
    | none => exact Option.some.inj h ▸ forget_discard _ _ _
    | some a => exact Option.some.inj h ▸ forget_discard _ _ _
  | del x => exact Option.some.inj h ▸ forget_discard _ _ _
  | pb x arg =>
    cases arg with
    | ext v => exact Option.some.inj h ▸ forget_map _ _ _
    | self i =>
      cases h
      show forget ((appendElement ac.cfg x (.copyOf (s.w.hdr x).data i) >>= fun _ => pure Out.none) w0) =
        (appendElement ac.cfg x (.copyOf (w0.hdr x).data i) >>= fun _ => pure ()) w0
      rw [hh]; exact forget_map _ _ _
  | pbm x v => exact Option.some.inj h ▸ forget_map _ _ _
  | ins x p arg =>
    cases arg with
    | ext v => exact Option.some.inj h ▸ forget_map _ _ _
    | self i =>
      cases h
      show forget ((emplaceAt ac.cfg x p (.copyOf (s.w.hdr x).data i) false >>= fun r => pure (Out.idx r)) w0) =
        (emplaceAt ac.cfg x p (.copyOf (w0.hdr x).data i) false >>= fun _ => pure ()) w0
      rw [hh]; exact forget_map _ _ _
  | insm x p v => exact Option.some.inj h ▸ forget_map _ _ _
  | insn x p n arg =>
    cases arg with
    | ext v => exact Option.some.inj h ▸ forget_map _ _ _
    | self i =>
      cases h
      show forget ((insertCopies ac.cfg x p n (.copyOf (s.w.hdr x).data i) >>= fun r => pure (Out.idx r)) w0) =
        (insertCopies ac.cfg x p n (.copyOf (w0.hdr x).data i) >>= fun _ => pure ()) w0
      rw [hh]; exact forget_map _ _ _
  | insr x p k vs =>
    cases k with
    | fw =>
      obtain ⟨he, rfl⟩ := toMOp_insr_fw h
      show forget (((if vs.isEmpty = true then pure p else insertRangeFwd ac.cfg x p (extSrcs vs)) >>= fun i => pure (Out.idx i)) w0) = _
      rw [if_neg he]; exact forget_map _ _ _
    | inp =>
      obtain ⟨he, hp, rfl⟩ := toMOp_insr_inp h
      show forget (((if vs.isEmpty = true then pure p else if p = (s.w.hdr x).size then appendRangeInput ac.cfg x false s.nextStream 0 vs
        else insertRangeInputMid ac.cfg x p s.nextStream vs) >>= fun i => pure (Out.idx i)) w0) = _
      rw [if_neg he, if_pos hp]; exact forget_map _ _ _
  | era x p => exact Option.some.inj h ▸ forget_map _ _ _
  | erar x p q => exact Option.some.inj h ▸ forget_map _ _ _
  | pop x => exact Option.some.inj h ▸ forget_discard _ _ _
  | clr x => exact Option.some.inj h ▸ forget_discard _ _ _
  | rsz x n => exact Option.some.inj h ▸ forget_discard _ _ _
  | rszv x n arg =>
    cases arg with
    | ext v => exact Option.some.inj h ▸ forget_discard _ _ _
    | self i =>
      cases h
      show forget ((resizeWith ac.cfg x n (.copyOf (s.w.hdr x).data i) >>= fun _ => pure Out.none) w0) =
        resizeWith ac.cfg x n (.copyOf (w0.hdr x).data i) w0
      rw [hh]; exact forget_discard _ _ _
  | rsv x n => exact Option.some.inj h ▸ forget_discard _ _ _
  | stf x => exact Option.some.inj h ▸ forget_discard _ _ _
  | asn x n v => exact Option.some.inj h ▸ forget_discard _ _ _
  | asr x k vs =>
    cases k with
    | fw => exact Option.some.inj h ▸ forget_discard _ _ _
    | inp => exact Option.some.inj h ▸ forget_discard _ _ _
  | app x k vs =>
    cases k with
    | fw => exact Option.some.inj h ▸ forget_map _ _ _
    | inp => exact Option.some.inj h ▸ forget_map _ _ _
  | asc x y => exact Option.some.inj h ▸ forget_discard _ _ _
  | asm x y => exact Option.some.inj h ▸ forget_discard _ _ _
  | swp x y => exact Option.some.inj h ▸ forget_discard _ _ _
  | appc x y => exact Option.some.inj h ▸ forget_discard _ _ _
  | appm x y => exact Option.some.inj h ▸ forget_discard _ _ _
  | «at» x i =>
    cases h
    show forget ((if Gen.guard_at0_0 { size := (w0.hdr x).size, pos := i } = true then throwE .range
                  else readSlot (w0.hdr x).data i >>= fun r => pure (Out.val r)) w0) =
      (if Gen.guard_at0_0 { size := (w0.hdr x).size, pos := i } = true then throwE .range
       else readSlot (w0.hdr x).data i >>= fun _ => pure ()) w0
    cases Gen.guard_at0_0 { size := (w0.hdr x).size, pos := i }
    · exact forget_map _ _ _
    · rfl
  | get x i => cases h; exact forget_map (readSlot (w0.hdr x).data i) Out.val w0

/-- … and for the calls on ONE container the protocol's validity test is the history language's precondition: a line the
    driver (and the harness) accept as valid is a call the single-container theorems cover -/
theorem bridge_valid_on (ac : ApiCfg) (s : Sys) (op : Op) (c : Nat) (sop : SOp Int) (h : toMOp ac s op = some (.on c sop))
    (hv : op.valid s = true) : s.isAlive c = true ∧ sop.valid (s.w.hdr c).size := by
  cases op with
  | new _ _ | newn _ _ _ | newv _ _ _ _ | newg _ _ _ | del _ | asc _ _ | asm _ _ | swp _ _ | appc _ _ | appm _ _ => cases h
  | newr _ k _ _ => cases k <;> cases h
  | newc _ _ a => cases a <;> cases h
  | newm _ _ a => cases a <;> cases h
  | pb x arg =>
    cases arg with
    | ext v => cases h; simp only [Op.valid, Bool.and_true] at hv; exact ⟨hv, trivial⟩
    | self i => cases h; simp only [Op.valid, Bool.and_eq_true, decide_eq_true_eq] at hv; exact hv
  | pbm x v => cases h; exact ⟨hv, trivial⟩
  | ins x p arg =>
    cases arg with
    | ext v => cases h; simp only [Op.valid, Bool.and_true, Bool.and_eq_true, decide_eq_true_eq] at hv; exact hv
    | self i => cases h; simp only [Op.valid, Bool.and_eq_true, decide_eq_true_eq] at hv; exact ⟨hv.1.1, hv.1.2, hv.2⟩
  | insm x p v => cases h; simp only [Op.valid, Bool.and_eq_true, decide_eq_true_eq] at hv; exact hv
  | insn x p n arg =>
    cases arg with
    | ext v => cases h; simp only [Op.valid, Bool.and_true, Bool.and_eq_true, decide_eq_true_eq] at hv; exact hv
    | self i => cases h; simp only [Op.valid, Bool.and_eq_true, decide_eq_true_eq] at hv; exact ⟨hv.1.1, hv.1.2, hv.2⟩
  | insr x p k vs =>
    cases k with
    | fw =>
      obtain ⟨he, hm⟩ := toMOp_insr_fw h
      cases hm
      simp only [Op.valid, Bool.and_eq_true, decide_eq_true_eq] at hv
      exact ⟨hv.1, hv.2, fun e => he (by rw [e]; rfl)⟩
    | inp =>
      obtain ⟨_, _, hm⟩ := toMOp_insr_inp h
      cases hm
      simp only [Op.valid, Bool.and_eq_true, decide_eq_true_eq] at hv
      exact ⟨hv.1, trivial⟩
  | era x p => cases h; simp only [Op.valid, Bool.and_eq_true, decide_eq_true_eq] at hv; exact hv
  | erar x p q => cases h; simp only [Op.valid, Bool.and_eq_true, decide_eq_true_eq] at hv; exact ⟨hv.1.1, hv.1.2, hv.2⟩
  | pop x => cases h; simp only [Op.valid, Bool.and_eq_true, decide_eq_true_eq] at hv; exact hv
  | clr x => cases h; exact ⟨hv, trivial⟩
  | rsz x n => cases h; exact ⟨hv, trivial⟩
  | rszv x n arg =>
    cases arg with
    | ext v => cases h; simp only [Op.valid, Bool.and_true] at hv; exact ⟨hv, trivial⟩
    | self i => cases h; simp only [Op.valid, Bool.and_eq_true, decide_eq_true_eq] at hv; exact hv
  | rsv x n => cases h; exact ⟨hv, trivial⟩
  | stf x => cases h; exact ⟨hv, trivial⟩
  | asn x n v => cases h; exact ⟨hv, trivial⟩
  | asr x k vs => cases k <;> (cases h; exact ⟨hv, trivial⟩)
  | app x k vs => cases k <;> (cases h; exact ⟨hv, trivial⟩)
  | «at» x i => cases h; exact ⟨hv, trivial⟩
  | get x i => cases h; simp only [Op.valid, Bool.and_eq_true, decide_eq_true_eq] at hv; exact hv

/-- the container a protocol call constructs (`true`) or destroys (`false`) -/
def _root_.SvModel.Op.life : Op → Option (Nat × Bool)
  | .new x _ | .newn x _ _ | .newv x _ _ _ | .newr x _ _ _ | .newg x _ _ | .newc x _ _ | .newm x _ _ => some (x, true)
  | .del x => some (x, false)
  | _ => none

theorem toMOp_life {ac : ApiCfg} {s : Sys} {op : Op} {m : MOp Int} (h : toMOp ac s op = some m) : m.life = op.life := by
  cases op with
  | new _ _ | newn _ _ _ | newv _ _ _ _ | newg _ _ _ | del _ | pbm _ _ | insm _ _ _ | era _ _ | erar _ _ _ | pop _ | clr _ | rsz _ _
  | rsv _ _ | stf _ | asn _ _ _ | asc _ _ | asm _ _ | swp _ _ | appc _ _ | appm _ _ | «at» _ _ | get _ _ => exact Option.some.inj h ▸ rfl
  | newr _ k _ _ | asr _ k _ | app _ k _ => cases k <;> exact Option.some.inj h ▸ rfl
  | newc _ _ a | newm _ _ a => cases a <;> exact Option.some.inj h ▸ rfl
  | pb _ arg | ins _ _ arg | insn _ _ _ arg | rszv _ _ arg => cases arg <;> exact Option.some.inj h ▸ rfl
  | insr x p k vs =>
    cases k with
    | fw => rw [(toMOp_insr_fw h).2]; rfl
    | inp => rw [(toMOp_insr_inp h).2.2]; rfl

/-- non-vacuity: the bridge covers 42 of the protocol's call forms; two instances -/
example : toMOp { cfg := Ex.cfgT } (initSys 2 3) (.insn 0 1 3 (.self 0)) = some (.on 0 (.insertNSelf 1 3 0)) ∧
          toMOp { cfg := Ex.cfgT } (initSys 2 3) (.appm 0 2) = some (.appendMove 0 2) := ⟨rfl, rfl⟩

end SvModel.Bridge
