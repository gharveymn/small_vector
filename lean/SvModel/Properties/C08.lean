/-
C08 — Constant evaluation matches run-time results and is free of UB and leaks.

What the model carries, and what it cannot:
 * The element values, sizes and return values of every operation with a refinement theorem (Properties/Core.lean) are
   those of the L0 list function; L0 has no notion of build mode, so they are the same in every mode in which the
   operation refines L0 (`results_mode_independent_*`), and every reallocating path takes its capacity from the one
   generated growth function (C14), which does not consult the evaluation mode.
 * The generated function `has_allocation` is the only decision function of the header that reads
   `is_constant_evaluated ()`: under constant evaluation every container counts as allocated
   (`has_allocation_consteval`), at run time exactly the containers whose capacity exceeds the inline capacity
   (`has_allocation_runtime`).  This is why `inlined ()` and the capacity after a move or swap are exempted by the property:
   a move may then steal the "inline" buffer.
 * The constant-evaluation branches themselves (heap-backed inline storage, heap_temporary) are NOT in the L2 model.
   That any sequence of operations IS a constant expression (the compiler's evaluator finds no UB, no out-of-lifetime access,
   no unreleased allocation) and yields the run-time results is established per generated program by the compilers'
   constant evaluators: tools/c08.py turns random op sequences into `constexpr` functions folding every non-exempt
   observable into a digest, g++ and clang++ evaluate them at compile time and at run time, and the Lean model's
   observations are folded into the same digest (three-way agreement).  Labelled partial.
-/
import SvModel.Properties.Core
import SvModel.Proofs.InputRange
import SvModel.Gen.Growth

namespace SvModel.C08
open SvModel Gen
variable {α : Type}

theorem has_allocation_consteval (N cap : Nat) : hasAllocation true N cap = true := rfl
theorem has_allocation_runtime (N cap : Nat) : hasAllocation false N cap = decide (N < cap) := rfl

/-- the guards that read the evaluation mode only do so through `has_allocation`: with constEval = true they are the
    constant the header's `if (std::is_constant_evaluated ()) return true;` makes them -/
theorem guards_consteval (e : GuardEnv) (h : e.constEval = true) :
    guard_wipe_0 e = true ∧ guard_swapDefault_0 e = true ∧ guard_moveInitialize2_0 e = true ∧ guard_moveAssignDefault2_0 e = true ∧
    guard_copyAssign0_2 e = true ∧ guard_shrinkToSize_2 e = true := by
  simp [guard_wipe_0, guard_swapDefault_0, guard_moveInitialize2_0, guard_moveAssignDefault2_0, guard_copyAssign0_2, guard_shrinkToSize_2,
    hasAllocation, h]

/-- results (contents and returned position) of push_back do not depend on the configuration at all: two runs from worlds
    holding the same list give the same list — whatever the element-type flavour, allocator traits or fast-path mode -/
theorem results_mode_independent_push_back (cfg1 cfg2 : Cfg) (c : Nat) (a : α) (w1 w2 w1' w2' : World α) (r1 r2 : Nat) (xs : List (Val α))
    (hp1 : Pre cfg1 w1 c) (hp2 : Pre cfg2 w2 c) (hpol1 : StrongPolicy cfg1) (hpol2 : StrongPolicy cfg2)
    (hx1 : Holds w1 c xs) (hx2 : Holds w2 c xs)
    (hr1 : appendElement cfg1 c (.ext a) w1 = .ok r1 w1') (hr2 : appendElement cfg2 c (.ext a) w2 = .ok r2 w2') :
    ∃ ys, Holds w1' c ys ∧ Holds w2' c ys ∧ r1 = r2 := by
  have h1 := C01.push_back_refines cfg1 c (.ext a) w1 w1' r1 xs hp1 (argOK_ext cfg1 w1 c a) hpol1 hx1 hr1
  have h2 := C01.push_back_refines cfg2 c (.ext a) w2 w2' r2 xs hp2 (argOK_ext cfg2 w2 c a) hpol2 hx2 hr2
  exact ⟨_, h1.1, h2.1, by rw [h1.2, h2.2]⟩

theorem results_mode_independent_resize (cfg1 cfg2 : Cfg) (c n : Nat) (a : α) (w1 w2 w1' w2' : World α) (xs : List (Val α))
    (hp1 : Pre cfg1 w1 c) (hp2 : Pre cfg2 w2 c) (hpol1 : StrongPolicy cfg1) (hpol2 : StrongPolicy cfg2)
    (hx1 : Holds w1 c xs) (hx2 : Holds w2 c xs)
    (hr1 : resizeWith cfg1 c n (.ext a) w1 = .ok () w1') (hr2 : resizeWith cfg2 c n (.ext a) w2 = .ok () w2') :
    ∃ ys, Holds w1' c ys ∧ Holds w2' c ys :=
  ⟨_, C01.resize_refines cfg1 c n (.ext a) w1 w1' xs hp1 (argOK_ext cfg1 w1 c a) hpol1 hx1 hr1,
      C01.resize_refines cfg2 c n (.ext a) w2 w2' xs hp2 (argOK_ext cfg2 w2 c a) hpol2 hx2 hr2⟩

theorem results_mode_independent_erase (cfg1 cfg2 : Cfg) (c p q : Nat) (w1 w2 w1' w2' : World α) (r1 r2 : Nat) (xs : List (Val α))
    (hp1 : Pre cfg1 w1 c) (hp2 : Pre cfg2 w2 c) (h1 : p ≤ q) (h2 : q ≤ xs.length) (hx1 : Holds w1 c xs) (hx2 : Holds w2 c xs)
    (hr1 : eraseRange cfg1 c p q w1 = .ok r1 w1') (hr2 : eraseRange cfg2 c p q w2 = .ok r2 w2') :
    ∃ ys, Holds w1' c ys ∧ Holds w2' c ys ∧ r1 = r2 := by
  have a := C01.erase_range_refines cfg1 c p q w1 w1' r1 xs hp1 h1 (by rw [← hx1.1]; exact h2) hx1 hr1
  have b := C01.erase_range_refines cfg2 c p q w2 w2' r2 xs hp2 h1 (by rw [← hx2.1]; exact h2) hx2 hr2
  exact ⟨_, a.1, b.1, by rw [a.2, b.2]⟩

end SvModel.C08
