/-
C19 — Default inline capacity sizes the object to 64 bytes; empty base costs nothing.

`objSize` is a model of the Itanium-ABI layout of `small_vector<T, N, A>` (header = pointer + two size_type fields, whose
tail padding is reusable; inline buffer aligned for T; allocator state in front unless empty (EBO)).  It is validated
row by row against `sizeof` as computed by the compiler from the real header (`Gen.layoutChunks`, regenerated on every
run): `model_matches_compiler`.  `defaultN` is the formula `Gen.defaultBufferSize`, regenerated from
`default_buffer_size` in the header.  The property's clause is `Optimal`.
-/
import SvModel.Gen.Layout
import SvModel.Gen.LayoutTable

namespace SvModel.C19
open SvModel.Gen

def ru (x a : Nat) : Nat := (x + a - 1) / a * a

/-- sizeof (small_vector<T, N, A>) for sizeof T = s, alignof T = a, sizeof size_type = w, allocator state k bytes aligned ka
    (k = 0: empty allocator, empty-base optimised) -/
def objSize (N s a w k ka : Nat) : Nat :=
  let hdr := 8 + 2 * w
  let am  := if N = 0 then 8 else max 8 a
  let md  := if N = 0 then ru hdr 8 else ru (ru hdr a + N * s) am
  let off := if k = 0 then 0 else ru k am
  let atot := max am (if k = 0 then 1 else ka)
  ru (off + md) atot

def objAlign (N a k ka : Nat) : Nat := max (if N = 0 then 8 else max 8 a) (if k = 0 then 1 else ka)

/-- the default inline capacity, through the generated formula -/
def defaultN (s a w k ka : Nat) : Nat := defaultBufferSize s (objSize 0 s a w k ka)

def rowOk (r : LayoutRow) : Bool :=
  objSize 0 r.s r.a r.w r.k r.ka == r.size0 &&
  defaultBufferSize r.s r.size0 == r.defN &&
  objSize r.defN r.s r.a r.w r.k r.ka == r.sizeD &&
  objSize (r.defN + 1) r.s r.a r.w r.k r.ka == r.sizeD1 &&
  objSize 1 r.s r.a r.w r.k r.ka == r.size1 &&
  objAlign r.defN r.a r.k r.ka == r.alignD

/-- the layout model and the generated default-capacity formula agree with the compiler on every row of the table -/
theorem model_matches_compiler : layoutChunks.all (fun ch => ch.all rowOk) = true := by decide +kernel

/-- the property's clause: the default is the largest count whose object fits in `idealTotal` (= 64) bytes, or 1 when not even one fits -/
def Optimal (s a w k ka : Nat) : Prop :=
  let d := defaultN s a w k ka
  (objSize d s a w k ka ≤ idealTotal ∧ idealTotal < objSize (d + 1) s a w k ka) ∨ (d = 1 ∧ idealTotal < objSize 1 s a w k ka)

theorem ru8_le64 (x : Nat) (h : x ≤ 64) : ru x 8 ≤ 64 := by unfold ru; omega
theorem ru8_gt64 (x : Nat) (h : 64 < x) : 64 < ru x 8 := by
  unfold ru
  omega

/-- std::allocator (stateless), 64-bit size_type, element alignment ≤ 8: the default is optimal for EVERY element size -/
theorem optimal_std64 (s a : Nat) (hs : 0 < s) (ha : a = 1 ∨ a = 2 ∨ a = 4 ∨ a = 8) : Optimal s a 8 0 1 := by
  unfold Optimal defaultN defaultBufferSize idealBuffer idealTotal
  have e0 : objSize 0 s a 8 0 1 = 24 := by simp [objSize, ru]
  have e24 : ru 24 a = 24 := by rcases ha with rfl|rfl|rfl|rfl <;> simp [ru]
  have hmax : max 8 a = 8 := by rcases ha with rfl|rfl|rfl|rfl <;> simp
  have hobj : ∀ N, 0 < N → objSize N s a 8 0 1 = ru (24 + N * s) 8 := by
    intro N hN
    have : N ≠ 0 := by omega
    simp [objSize, this, e24, hmax]
    unfold ru
    omega
  simp only [e0]
  by_cases h : s ≤ 40
  · have hd : 0 < 40 / s := Nat.div_pos h hs
    have h1 : 40 / s * s ≤ 40 := Nat.div_mul_le_self _ _
    have h2 : 40 < s * (40 / s + 1) := Nat.lt_mul_div_succ 40 hs
    have h2' : 40 < 40 / s * s + s := by
      have : s * (40 / s + 1) = 40 / s * s + s := by rw [Nat.mul_add, Nat.mul_one, Nat.mul_comm]
      omega
    have h3 : (40 / s + 1) * s = 40 / s * s + s := Nat.succ_mul _ _
    simp only [show 64 - 24 = 40 from rfl, h, decide_true, if_true]
    left
    rw [hobj _ hd, hobj _ (Nat.succ_pos _)]
    exact ⟨ru8_le64 _ (by omega), ru8_gt64 _ (by rw [h3]; omega)⟩
  · simp only [show 64 - 24 = 40 from rfl, h, decide_false, Bool.false_eq_true, if_false]
    right
    refine ⟨by trivial, ?_⟩
    rw [hobj 1 (by omega)]
    exact ru8_gt64 _ (by omega)

/-- a container with inline capacity 0 and a stateless allocator is exactly one pointer plus two size_type fields,
    rounded up to pointer alignment — whatever the element type -/
theorem empty_is_ptr_plus_two_sizes (s a w : Nat) : objSize 0 s a w 0 1 = ru (8 + 2 * w) 8 := by
  simp [objSize, ru]
  omega

/-- the inline buffer (hence the object) is aligned for the element type -/
theorem inline_buffer_aligned (N a k ka : Nat) (hN : 0 < N) : a ≤ objAlign N a k ka := by
  unfold objAlign
  have : N ≠ 0 := by omega
  simp only [this, if_false]
  omega

/-- KNOWN FINDING P6, class A: with a narrow size_type the header's reusable tail padding is not counted — the README's own
    `tiny_allocator<int>` (16-bit size_type) gets 12 although 13 elements also fit in 64 bytes -/
theorem not_optimal_readme : ¬ Optimal 4 4 2 0 1 := by unfold Optimal; decide
/-- KNOWN FINDING P6, class B: alignment padding between allocator state and an over-aligned buffer is not counted —
    a 16-byte, 16-aligned element with 8 bytes of allocator state gets 2, which makes an 80-byte object -/
theorem not_optimal_overaligned : ¬ Optimal 16 16 8 8 8 := by unfold Optimal; decide

/-- non-vacuity / sanity: the model on two familiar instantiations -/
example : objSize 0 4 4 8 0 1 = 24 ∧ defaultN 4 4 8 0 1 = 10 ∧ objSize 10 4 4 8 0 1 = 64 ∧ objSize 11 4 4 8 0 1 = 72 := by decide

end SvModel.C19
