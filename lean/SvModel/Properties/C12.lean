/-
C12 — Exceeding max_size() throws length_error, no effect; size arithmetic never wraps.

The model computes sizes in `Nat`; the narrow `size_type` enters through `Cfg.maxSize`
(= min (allocator max_size, max difference_type), `Gen.maxSize`).  Theorems:
 * `*_length_error`: an operation whose required size / capacity exceeds max_size returns `thrown length` with the world
   untouched (definitional unfolding of the generated guards — the guards are what the header says);
 * `alloc_within_max`: every capacity the growth function can produce for an admissible request is ≤ max_size;
 * `growth_no_wrap`, `append_no_wrap`: under the invariant `size ≤ cap ≤ max_size < 2^bits` every intermediate value of the
   size computations (`max_size - cap`, `2 * cap`, `size + count`, `max_size - size`) is < 2^bits, so the unsigned
   arithmetic of the header coincides with the model's `Nat` arithmetic for EVERY width, 8-bit included;
 * `size ≤ max_size` always: from `VecOK` (`size ≤ cap ≤ max (max_size, N)`).
The clause about range lengths (`external_range_length` narrowing a long range) is about C++ conversions outside the
model; it is checked on the real header with an 8-bit size_type allocator at and beyond the limit (differential + ASan).
-/
import SvModel.Proofs.AppendN
import SvModel.Proofs.GrowCalls
import SvModel.Proofs.GuardEqs

namespace SvModel.C12
open SvModel Gen
variable {α : Type}

/-- the reallocating end-insertion (tail of push_back and of insert at the end) at max_size -/
theorem emplaceIntoReallocationEnd_length_error (cfg : Cfg) (c : Nat) (s : Src α) (w : World α)
    (hmax : (w.hdr c).size = cfg.maxSize) : emplaceIntoReallocationEnd cfg c s w = .thrown .length w := by
  unfold emplaceIntoReallocationEnd
  rw [getV_bind, guard_emplaceIntoReallocationEnd_0_eq, if_pos (decide_eq_true hmax.symm)]
  rfl

/-- push_back on a container holding max_size elements -/
theorem push_back_length_error (cfg : Cfg) (c : Nat) (s : Src α) (w : World α)
    (hfull : (w.hdr c).size = (w.hdr c).cap) (hmax : (w.hdr c).size = cfg.maxSize) :
    appendElement cfg c s w = .thrown .length w := by
  unfold appendElement
  rw [getV_bind, guard_appendElement_0_eq, if_neg (by rw [decide_eq_true_eq]; omega)]
  exact emplaceIntoReallocationEnd_length_error cfg c s w hmax

/-- insert (pos, x) / emplace (pos, args) at max_size (): length_error, nothing changed — for every position -/
theorem insert_length_error (cfg : Cfg) (c pos : Nat) (s : Src α) (rv : Bool) (w : World α)
    (hfull : (w.hdr c).size = (w.hdr c).cap) (hmax : (w.hdr c).size = cfg.maxSize) :
    emplaceAt cfg c pos s rv w = .thrown .length w := by
  unfold emplaceAt
  rw [getV_bind, guard_emplaceAt_0_eq, if_neg (by rw [decide_eq_true_eq]; omega)]
  unfold emplaceIntoReallocation
  rw [getV_bind, guard_emplaceIntoReallocation_0_eq, guard_emplaceIntoReallocation_1_eq]
  split
  · exact emplaceIntoReallocationEnd_length_error cfg c s w hmax
  · rw [if_pos (decide_eq_true hmax.symm)]
    rfl

/-- insert (pos, n, x), n ≥ 1, beyond max_size (): length_error, nothing changed — mid-sequence positions -/
theorem insert_n_length_error (cfg : Cfg) (c pos n : Nat) (s : Src α) (w : World α)
    (hpos : pos ≠ (w.hdr c).size) (hbig : cfg.maxSize - (w.hdr c).size < n) (hcap : (w.hdr c).cap ≤ cfg.maxSize) :
    insertCopies cfg c pos n s w = .thrown .length w := by
  unfold insertCopies
  rw [getV_bind, guard_insertCopies_0_eq, guard_insertCopies_1_eq, guard_insertCopies_3_eq, guard_insertCopies_4_eq,
    if_neg (by rw [decide_eq_true_eq]; omega), if_neg (by rw [decide_eq_true_eq]; exact hpos),
    if_pos (decide_eq_true (by omega)), if_pos (decide_eq_true hbig)]
  rfl

/-- insert (pos, first, last) (multi-pass) beyond max_size (): length_error, nothing changed — mid-sequence positions -/
theorem insert_range_length_error (cfg : Cfg) (c pos : Nat) (srcs : List (Src α)) (w : World α)
    (hpos : pos ≠ (w.hdr c).size) (hbig : cfg.maxSize - (w.hdr c).size < srcs.length) (hcap : (w.hdr c).cap ≤ cfg.maxSize) :
    insertRangeFwd cfg c pos srcs w = .thrown .length w := by
  unfold insertRangeFwd
  rw [getV_bind, guard_insertRange1_0_eq, decide_eq_false hpos, Bool.not_false, if_pos rfl]
  unfold insertRangeHelper
  rw [getV_bind, guard_insertRangeHelper_0_eq, guard_insertRangeHelper_1_eq,
    if_pos (decide_eq_true (by omega)), if_pos (decide_eq_true hbig)]
  rfl

/-- insert(end, n, x) / resize growth / append(range): required size beyond max_size -/
theorem append_copies_length_error (cfg : Cfg) (c count : Nat) (s : Src α) (w : World α)
    (hbig : cfg.maxSize - (w.hdr c).size < count) (hcap : (w.hdr c).cap ≤ cfg.maxSize) :
    appendCopies cfg c count s w = .thrown .length w := by
  unfold appendCopies
  rw [getV_bind, guard_appendCopies_0_eq, guard_appendCopies_1_eq,
    if_pos (decide_eq_true (by omega)), if_pos (decide_eq_true hbig)]
  rfl

theorem append_range_length_error (cfg : Cfg) (c : Nat) (strong : Bool) (srcs : List (Src α)) (w : World α)
    (hbig : cfg.maxSize - (w.hdr c).size < srcs.length) (hcap : (w.hdr c).cap ≤ cfg.maxSize) :
    appendRangeFwd cfg c strong srcs w = .thrown .length w := by
  unfold appendRangeFwd
  rw [getV_bind, guard_appendRange2_0_eq, guard_appendRange2_1_eq,
    if_pos (decide_eq_true (by omega)), if_pos (decide_eq_true hbig)]
  rfl

theorem resize_length_error (cfg : Cfg) (c n : Nat) (s : Src α) (w : World α)
    (hbig : cfg.maxSize < n) (hcap : (w.hdr c).cap ≤ cfg.maxSize) :
    resizeWith cfg c n s w = .thrown .length w := by
  unfold resizeWith
  rw [guard_resizeWith_0_eq, if_neg (by rw [decide_eq_true_eq]; omega), pure_bind_run, getV_bind,
    guard_resizeWith_1_eq, guard_resizeWith_2_eq, if_pos (decide_eq_true (by omega)), if_pos (decide_eq_true hbig)]
  rfl

theorem reserve_length_error (cfg : Cfg) (c n : Nat) (w : World α)
    (hbig : cfg.maxSize < n) (hcap : (w.hdr c).cap ≤ cfg.maxSize) :
    requestCapacity cfg c n w = .thrown .length w := by
  unfold requestCapacity
  rw [requestCapacity_calls.1, getV_bind, guard_requestCapacity_0_eq, if_neg (by rw [decide_eq_true_eq]; omega),
    calcNewCapacity_checked, bind_run, checkedCalc_run, if_pos hbig]

theorem assign_n_length_error (cfg : Cfg) (c n : Nat) (s : Src α) (w : World α)
    (hbig : cfg.maxSize < n) (hcap : (w.hdr c).cap ≤ cfg.maxSize) :
    assignWithCopies cfg c n s w = .thrown .length w := by
  unfold assignWithCopies
  rw [assignWithCopies_calls.1, getV_bind, guard_assignWithCopies_0_eq, if_pos (decide_eq_true (by omega)),
    calcNewCapacity_checked, bind_run, checkedCalc_run, if_pos hbig]

/-- count, count+value and forward-range construction beyond max_size: length_error before anything is allocated
    (`ctor*Checked` is regenerated from the header: which of checked_allocate / unchecked_allocate the constructor calls) -/
theorem ctor_length_error (cfg : Cfg) (c a : Nat) (srcs : List (Src α)) (w : World α)
    (hbig : cfg.maxSize < srcs.length) (hN : (w.hdr c).N < srcs.length) :
    ctorFill cfg c a true srcs w = .thrown .length { w with hdr := upd w.hdr c { w.hdr c with alloc := a } } := by
  unfold ctorFill
  rw [bind_run]
  show (getV c >>= _) _ = _
  rw [bind_run, getV_run]
  simp only []
  rw [if_pos (by simpa using hN)]
  simp only [if_true, bind_run]
  unfold checkedAllocate
  rw [guard_checkedAllocate_0_eq, if_pos (decide_eq_true hbig)]
  rfl

theorem ctors_use_checked_allocate :
    ctorCountChecked = true ∧ ctorCountValueChecked = true ∧ ctorGeneratorChecked = true ∧ ctorForwardRangeChecked = true := by decide

/-- the length of a caller's range is checked against the width of size_type in every build mode (not only without NDEBUG):
    the model's `srcs.length : Nat` is the length the header works with, or the header has thrown length_error -/
theorem range_length_checked_ndebug : rangeLengthCheckedNdebug = true := by decide

/-- the capacity requested from the allocator by any growing path is within max_size -/
theorem alloc_within_max (m cap req : Nat) (h1 : cap < req) (h2 : req ≤ m) : newCapacity m cap req ≤ m :=
  (newCapacity_bounds m cap req h1 h2).2

/-- no intermediate value of the growth computation exceeds the width of size_ty -/
theorem growth_no_wrap (bits m cap req : Nat) (hm : m < 2 ^ bits) (hcap : cap ≤ m) (hreq : req ≤ m) :
    m - cap < 2 ^ bits ∧ (¬ (m - cap ≤ cap) → 2 * cap < 2 ^ bits) ∧ newCapacity m cap req < 2 ^ bits ∨ cap ≥ req := by
  by_cases h : cap < req
  · left
    refine ⟨by omega, fun hn => by omega, ?_⟩
    have := (newCapacity_bounds m cap req h hreq).2; omega
  · right; omega

/-- the guards `num_uninitialized () < count` and `max_size - size < count` are evaluated without wrap, and when both fail
    to reject, `size + count` does not wrap either -/
theorem append_no_wrap (bits m size cap count : Nat) (hm : m < 2 ^ bits) (hsc : size ≤ cap) (hcm : cap ≤ m)
    (hok : ¬ (m - size < count)) : cap - size < 2 ^ bits ∧ m - size < 2 ^ bits ∧ size + count ≤ m ∧ size + count < 2 ^ bits := by
  omega

/-- size () never exceeds max_size () -/
theorem size_le_max_size (cfg : Cfg) (w : World α) (c : Nat) (hv : VecOK cfg w c) (hN : (w.hdr c).N ≤ cfg.maxSize) :
    (w.hdr c).size ≤ cfg.maxSize := Nat.le_trans hv.size_le (hv.cap_le_max hN)

/-- non-vacuity: an 8-bit size_type allocator for 4-byte elements has max_size 63 -/
example : Gen.maxSize (255 / 4) 127 = 63 := by decide
/-- (values of the growth function are C14's business; here only: an admissible request never yields more than max_size) -/
example : newCapacity 63 40 41 ≤ 63 ∧ newCapacity 63 20 21 ≤ 63 ∧ 41 ≤ newCapacity 63 40 41 := by decide

end SvModel.C12
