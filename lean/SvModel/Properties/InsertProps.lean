/-
Property corollaries for the single-element insert (emplace / insert (pos, x) / insert (pos, T&&)): C01 refinement,
C05 strong guarantee at the end position, C06 basic guarantee, C10 in-place when there is room, C11 aliasing.
-/
import SvModel.Properties.Core
import SvModel.Proofs.InsertOps
import SvModel.Proofs.InsertN

namespace SvModel
open Gen
variable {α : Type}

/-- `insertRangeFwd_sat` for a non-empty range of outside values, under the standing assumptions -/
theorem Pre.sat_insertRangeFwd {cfg : Cfg} {w : World α} {c pos : Nat} {vs : List α} (hp : Pre cfg w c)
    (hpos : pos ≤ (w.hdr c).size) (hne : vs ≠ []) (hpol : StrongPolicy cfg) :
    (insertRangeFwd cfg c pos (vs.map Src.ext) w).sat
      (fun r w' => r = pos ∧ Inserted cfg w w' c pos (vs.map Val.val) ∧ (vs.length ≤ (w.hdr c).cap - (w.hdr c).size → InsKept w w' c))
      (fun _ w' => InsBasic cfg w w' c) := by
  have h := hp.use (insertRangeFwd_sat cfg c pos _ w) hp.nmax hpos (ext_length_pos hne) (external_ext vs) hpol
  rwa [map_srcVal_ext, List.length_map] at h

namespace C01
/-- insert (pos, x) / emplace (pos, x): contents become take pos ++ [x] ++ drop pos; returns pos -/
theorem insert_refines (cfg : Cfg) (c pos : Nat) (s : Src α) (rv : Bool) (w w' : World α) (r : Nat) (xs : List (Val α))
    (hp : Pre cfg w c) (ha : ArgOK cfg w c s) (hrv : rv = true → ∃ a, s = .extMove a) (hpol : StrongPolicy cfg)
    (hpos : pos ≤ (w.hdr c).size) (hx : Holds w c xs) (hr : emplaceAt cfg c pos s rv w = .ok r w') :
    Holds w' c (L0.insertAt xs pos (srcVal w s)).1 ∧ r = (L0.insertAt xs pos (srcVal w s)).2 := by
  have h := sat_of_ok (hp.use (emplaceAt_sat cfg c pos s rv w) hp.nmax hpos ha hrv hpol) hr
  exact ⟨h.2.1.holds xs hx, h.1⟩
end C01

namespace C05
/-- insert (end (), x) / emplace (end (), x): strong guarantee, like push_back -/
theorem insert_at_end_strong (cfg : Cfg) (c : Nat) (s : Src α) (rv : Bool) (w w' : World α) (e : Exc)
    (hp : Pre cfg w c) (ha : ArgOK cfg w c s) (hrv : rv = true → ∃ a, s = .extMove a) (hpol : StrongPolicy cfg)
    (hr : emplaceAt cfg c (w.hdr c).size s rv w = .thrown e w') : Strong w w' :=
  (sat_of_thrown (hp.use (emplaceAt_sat cfg c _ s rv w) hp.nmax (Nat.le_refl _) ha hrv hpol) hr).2 rfl
end C05

namespace C06
/-- a throw out of insert / emplace anywhere: valid container (possibly one element longer, possibly holding moved-from
    values), same buffer and capacity, nothing leaked, nothing else touched -/
theorem insert_basic (cfg : Cfg) (c pos : Nat) (s : Src α) (rv : Bool) (w w' : World α) (e : Exc)
    (hp : Pre cfg w c) (ha : ArgOK cfg w c s) (hrv : rv = true → ∃ a, s = .extMove a) (hpol : StrongPolicy cfg)
    (hpos : pos ≤ (w.hdr c).size) (hr : emplaceAt cfg c pos s rv w = .thrown e w') :
    Basic cfg w w' c ∧ (w'.hdr c).data = (w.hdr c).data ∧ (w'.hdr c).cap = (w.hdr c).cap ∧ w'.live = w.live :=
  (sat_of_thrown (hp.use (emplaceAt_sat cfg c pos s rv w) hp.nmax hpos ha hrv hpol) hr).1
end C06

namespace C10
/-- insert with room: same buffer, same capacity, no allocation -/
theorem insert_in_place (cfg : Cfg) (c pos : Nat) (s : Src α) (rv : Bool) (w w' : World α) (r : Nat)
    (hp : Pre cfg w c) (ha : ArgOK cfg w c s) (hrv : rv = true → ∃ a, s = .extMove a) (hpol : StrongPolicy cfg)
    (hpos : pos ≤ (w.hdr c).size) (hroom : (w.hdr c).size < (w.hdr c).cap) (hr : emplaceAt cfg c pos s rv w = .ok r w') :
    (w'.hdr c).data = (w.hdr c).data ∧ (w'.hdr c).cap = (w.hdr c).cap ∧ w'.live = w.live ∧ w'.next = w.next :=
  (sat_of_ok (hp.use (emplaceAt_sat cfg c pos s rv w) hp.nmax hpos ha hrv hpol) hr).2.2.1 hroom

/-- insert into a full container: one allocation of the growth function's capacity -/
theorem insert_grows (cfg : Cfg) (c pos : Nat) (s : Src α) (rv : Bool) (w w' : World α) (r : Nat)
    (hp : Pre cfg w c) (ha : ArgOK cfg w c s) (hrv : rv = true → ∃ a, s = .extMove a) (hpol : StrongPolicy cfg)
    (hpos : pos ≤ (w.hdr c).size) (hfull : ¬ (w.hdr c).size < (w.hdr c).cap) (hr : emplaceAt cfg c pos s rv w = .ok r w') :
    (w'.hdr c).data = w.next ∧ (w'.hdr c).cap = newCapacity cfg.maxSize (w.hdr c).cap ((w.hdr c).size + 1) :=
  (sat_of_ok (hp.use (emplaceAt_sat cfg c pos s rv w) hp.nmax hpos ha hrv hpol) hr).2.2.2 hfull
end C10

namespace C11
/-- insert (pos, v[i]) with an lvalue referring to the container's own element `i` — before or after `pos`, with or
    without reallocation — inserts a copy of the value v[i] had before the call -/
theorem insert_alias (cfg : Cfg) (c pos i : Nat) (w w' : World α) (r : Nat) (xs : List (Val α))
    (hp : Pre cfg w c) (hpol : StrongPolicy cfg) (hx : Holds w c xs) (hi : i < xs.length) (hpos : pos ≤ (w.hdr c).size)
    (hr : emplaceAt cfg c pos (.copyOf (w.hdr c).data i) false w = .ok r w') :
    Holds w' c (L0.insertAt xs pos xs[i]).1 := by
  obtain ⟨ha, hv⟩ := hx.self_src (cfg := cfg) hi
  exact hv ▸ (C01.insert_refines cfg c pos _ false w w' r xs hp ha (fun h => by cases h) hpol hpos hx hr).1

/-- non-vacuity: aliasing insert into the full inline container [1, 2] at position 1 of element 0 gives [1, 1, 2] -/
example : (match emplaceAt Ex.cfgT 0 1 (.copyOf 0 0) false Ex.w0 with
           | .ok r w' => r == 1 && (w'.mem (w'.hdr 0).data).take 3 == [.obj (.val 1), .obj (.val 1), .obj (.val 2)]
           | .thrown _ _ => false) = true := by decide +kernel
end C11

namespace C01
/-- insert (pos, n, x): n copies of x before pos; returns pos -/
theorem insert_n_refines (cfg : Cfg) (c pos n : Nat) (s : Src α) (w w' : World α) (r : Nat) (xs : List (Val α))
    (hp : Pre cfg w c) (ha : ArgOK cfg w c s) (hpol : StrongPolicy cfg) (hpos : pos ≤ (w.hdr c).size) (hx : Holds w c xs)
    (hr : insertCopies cfg c pos n s w = .ok r w') :
    Holds w' c (L0.insertN xs pos n (srcVal w s)).1 ∧ r = (L0.insertN xs pos n (srcVal w s)).2 := by
  have h := sat_of_ok (hp.use (insertCopies_sat cfg c pos n s w) hp.nmax hpos ha hpol) hr
  exact ⟨h.2.1.holds xs hx, h.1⟩

/-- insert (pos, first, last) over a non-empty multi-pass range of outside values -/
theorem insert_range_refines (cfg : Cfg) (c pos : Nat) (vs : List α) (w w' : World α) (r : Nat) (xs : List (Val α))
    (hp : Pre cfg w c) (hpol : StrongPolicy cfg) (hpos : pos ≤ (w.hdr c).size) (hne : vs ≠ []) (hx : Holds w c xs)
    (hr : insertRangeFwd cfg c pos (vs.map Src.ext) w = .ok r w') :
    Holds w' c (L0.insertRange xs pos (vs.map Val.val)).1 ∧ r = (L0.insertRange xs pos (vs.map Val.val)).2 := by
  have h := sat_of_ok (hp.sat_insertRangeFwd hpos hne hpol) hr
  exact ⟨h.2.1.holds xs hx, h.1⟩
end C01

namespace C06
theorem insert_n_basic (cfg : Cfg) (c pos n : Nat) (s : Src α) (w w' : World α) (e : Exc)
    (hp : Pre cfg w c) (ha : ArgOK cfg w c s) (hpol : StrongPolicy cfg) (hpos : pos ≤ (w.hdr c).size)
    (hr : insertCopies cfg c pos n s w = .thrown e w') :
    Basic cfg w w' c ∧ (w'.hdr c).data = (w.hdr c).data ∧ (w'.hdr c).cap = (w.hdr c).cap ∧ w'.live = w.live :=
  sat_of_thrown (hp.use (insertCopies_sat cfg c pos n s w) hp.nmax hpos ha hpol) hr

theorem insert_range_basic (cfg : Cfg) (c pos : Nat) (vs : List α) (w w' : World α) (e : Exc)
    (hp : Pre cfg w c) (hpol : StrongPolicy cfg) (hpos : pos ≤ (w.hdr c).size) (hne : vs ≠ [])
    (hr : insertRangeFwd cfg c pos (vs.map Src.ext) w = .thrown e w') :
    Basic cfg w w' c ∧ (w'.hdr c).data = (w.hdr c).data ∧ (w'.hdr c).cap = (w.hdr c).cap ∧ w'.live = w.live :=
  sat_of_thrown (hp.sat_insertRangeFwd hpos hne hpol) hr
end C06

namespace C10
/-- insert (pos, n, x) with room for n more elements keeps the buffer -/
theorem insert_n_in_place (cfg : Cfg) (c pos n : Nat) (s : Src α) (w w' : World α) (r : Nat)
    (hp : Pre cfg w c) (ha : ArgOK cfg w c s) (hpol : StrongPolicy cfg) (hpos : pos ≤ (w.hdr c).size)
    (hroom : n ≤ (w.hdr c).cap - (w.hdr c).size) (hr : insertCopies cfg c pos n s w = .ok r w') :
    (w'.hdr c).data = (w.hdr c).data ∧ (w'.hdr c).cap = (w.hdr c).cap ∧ w'.live = w.live ∧ w'.next = w.next :=
  (sat_of_ok (hp.use (insertCopies_sat cfg c pos n s w) hp.nmax hpos ha hpol) hr).2.2 hroom

theorem insert_range_in_place (cfg : Cfg) (c pos : Nat) (vs : List α) (w w' : World α) (r : Nat)
    (hp : Pre cfg w c) (hpol : StrongPolicy cfg) (hpos : pos ≤ (w.hdr c).size) (hne : vs ≠ [])
    (hroom : vs.length ≤ (w.hdr c).cap - (w.hdr c).size) (hr : insertRangeFwd cfg c pos (vs.map Src.ext) w = .ok r w') :
    (w'.hdr c).data = (w.hdr c).data ∧ (w'.hdr c).cap = (w.hdr c).cap ∧ w'.live = w.live ∧ w'.next = w.next :=
  (sat_of_ok (hp.sat_insertRangeFwd hpos hne hpol) hr).2.2 hroom
end C10

namespace C11
/-- insert (pos, n, v[i]): n copies of the value v[i] had before the call, wherever i lies relative to pos -/
theorem insert_n_alias (cfg : Cfg) (c pos n i : Nat) (w w' : World α) (r : Nat) (xs : List (Val α))
    (hp : Pre cfg w c) (hpol : StrongPolicy cfg) (hx : Holds w c xs) (hi : i < xs.length) (hpos : pos ≤ (w.hdr c).size)
    (hr : insertCopies cfg c pos n (.copyOf (w.hdr c).data i) w = .ok r w') :
    Holds w' c (L0.insertN xs pos n xs[i]).1 := by
  obtain ⟨ha, hv⟩ := hx.self_src (cfg := cfg) hi
  exact hv ▸ (C01.insert_n_refines cfg c pos n _ w w' r xs hp ha hpol hpos hx hr).1

/-- non-vacuity: on [1, 2] with capacity grown to 8: insert (0, 3, v[1]) in place gives [2, 2, 2, 1, 2] (tail ≥ … branch
    and the temporary are exercised by the kernel's evaluation of the model) -/
example : (match requestCapacity Ex.cfgT 0 8 Ex.w0 with
           | .ok _ w1 => (match insertCopies Ex.cfgT 0 0 3 (.copyOf (w1.hdr 0).data 1) w1 with
              | .ok r w' => r == 0 && (w'.mem (w'.hdr 0).data).take 5 == [.obj (.val 2), .obj (.val 2), .obj (.val 2), .obj (.val 1), .obj (.val 2)]
              | .thrown _ _ => false)
           | .thrown _ _ => false) = true := by decide +kernel
end C11

end SvModel
