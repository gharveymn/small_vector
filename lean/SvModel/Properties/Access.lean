/-
C01, element access: `at (i)` returns the i-th value and changes nothing, or throws `std::out_of_range` (and changes
nothing) exactly when i ≥ size (); `operator[] (i)` returns the i-th value.  Stated for the programs the driver runs for the
protocol lines `at` / `get` (Api.opM), for every world in which the container holds the list `xs`.
-/
import SvModel.Api
import SvModel.Proofs.Inv
import SvModel.Proofs.Kernel

namespace SvModel.C01
open SvModel
variable (ac : ApiCfg) (s : Sys)

theorem readSlot_holds {w : World Int} {x i : Nat} {xs : List (Val Int)} (hx : Holds w x xs) (hi : i < xs.length) :
    readSlot (w.hdr x).data i w = .ok xs[i] w := by
  unfold readSlot
  rw [hx.2 i hi]

/-- the const and the non-const overload of `at ()` make the same test (both generated from the header) -/
theorem at_overloads_same_test (e : Gen.GuardEnv) :
    Gen.guard_at0_0 e = decide (e.size ≤ e.pos) ∧ Gen.guard_at1_0 e = decide (e.size ≤ e.pos) :=
  ⟨guard_at0_0_eq e, guard_at1_0_eq e⟩

theorem at_in_range (x i : Nat) (w : World Int) (xs : List (Val Int)) (hx : Holds w x xs) (hi : i < xs.length) :
    opM ac s (.at x i) w = .ok (.val xs[i]) w := by
  show (getV x >>= fun v => if Gen.guard_at0_0 { size := v.size, pos := i } then throwE .range else readSlot v.data i >>= fun r => pure (Out.val r)) w = _
  have hsz : ¬ (w.hdr x).size ≤ i := hx.1 ▸ Nat.not_le_of_lt hi
  rw [getV_bind, (at_overloads_same_test _).1, if_neg (by rw [decide_eq_true_eq]; exact hsz), bind_run, readSlot_holds hx hi]
  rfl

theorem at_out_of_range (x i : Nat) (w : World Int) (xs : List (Val Int)) (hx : Holds w x xs) (hi : xs.length ≤ i) :
    opM ac s (.at x i) w = .thrown .range w := by
  show (getV x >>= fun v => if Gen.guard_at0_0 { size := v.size, pos := i } then throwE .range else readSlot v.data i >>= fun r => pure (Out.val r)) w = _
  rw [getV_bind, (at_overloads_same_test _).1, if_pos (decide_eq_true (hx.1 ▸ hi))]
  rfl

theorem index_in_range (x i : Nat) (w : World Int) (xs : List (Val Int)) (hx : Holds w x xs) (hi : i < xs.length) :
    opM ac s (.get x i) w = .ok (.val xs[i]) w := by
  show (getV x >>= fun v => readSlot v.data i >>= fun r => pure (Out.val r)) w = _
  rw [getV_bind, bind_run, readSlot_holds hx hi]
  rfl

end SvModel.C01
