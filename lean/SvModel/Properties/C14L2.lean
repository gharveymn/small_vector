/-
C14 on the L2 model itself: n push_backs on the slot machine — any inline capacity, any start state, any element flavour —
add at most logarithmically many ALLOCATION EVENTS to the trace.  The capacity and size evolve exactly as the L1 view
`C14.push` says (from `appendElement_sat`: in place when size < capacity, otherwise the generated growth function), and the
number of allocation events added by each push_back is bounded by the L1 counter's increment (none in place:
`C04.push_back_fits`; at most one otherwise: `Counts.isAlloc.appendElement`); so the potential argument of Properties/C14.lean applies to the real run.
-/
import SvModel.Properties.C14Uses
import SvModel.Properties.C04Fits
import SvModel.Proofs.CtorCount
import SvModel.Proofs.Examples

namespace SvModel.C14
open SvModel Gen
variable {α : Type}

/-- a run of push_backs of external values in which every call returns -/
def pushRun (cfg : Cfg) (c : Nat) : List α → World α → Option (World α)
  | [], w => some w
  | v :: vs, w =>
    match appendElement cfg c (.ext v) w with
    | .ok _ w' => pushRun cfg c vs w'
    | .thrown _ _ => none

/-- one push_back simulates the L1 step: same capacity and size, at most as many allocation events, and at most
    1 + (the L1 relocation increment) construction events -/
theorem push_simulates (cfg : Cfg) (c : Nat) (v : α) (w w' : World α) (r : Nat) (st : St) (b bc k : Nat)
    (hp : Pre cfg w c) (hpol : StrongPolicy cfg) (hcap : st.cap = (w.hdr c).cap) (hsize : st.size = (w.hdr c).size)
    (hal : nAlloc w.trace ≤ b + st.allocs) (hct : nCtor w.trace ≤ bc + k + st.relocs)
    (hr : appendElement cfg c (.ext v) w = .ok r w') :
    Pre cfg w' c ∧ (push cfg.maxSize st).cap = (w'.hdr c).cap ∧ (push cfg.maxSize st).size = (w'.hdr c).size ∧
    nAlloc w'.trace ≤ b + (push cfg.maxSize st).allocs ∧ nCtor w'.trace ≤ bc + (k + 1) + (push cfg.maxSize st).relocs := by
  have h := (sat_of_ok (hp.use (appendElement_sat cfg c _ w) hp.nmax (argOK_ext cfg w c v) hpol) hr).2
  have hpre : Pre cfg w' c := C06.usable_after_throw cfg c w w' hp ⟨h.vec, h.led, h.ub, h.frame⟩
  have hab := (Counts.isAlloc.appendElement cfg c (.ext v)).ab w
  have hcb := appendElement_ctor_bound cfg c (.ext v) w
  rw [hr] at hab hcb
  simp only [Res.world] at hab hcb
  unfold push
  by_cases hlt : (w.hdr c).size < (w.hdr c).cap
  · have hlt' : st.size < st.cap := by rw [hcap, hsize]; exact hlt
    simp only [hlt', if_true]
    have hnone := C04.push_back_fits cfg c (.ext v) w hlt
    unfold C04.Quiet0 at hnone
    rw [hr] at hnone
    simp only [Res.world] at hnone
    rw [if_pos hlt] at hcb
    refine ⟨hpre, ?_, ?_, Nat.le_trans hnone hal, by omega⟩
    · rw [(h.inplace hlt).2.1]
      exact hcap
    · rw [h.size]
      show st.size + 1 = _
      rw [hsize]
  · have hlt' : ¬ st.size < st.cap := by rw [hcap, hsize]; exact hlt
    simp only [hlt', if_false]
    rw [if_neg hlt] at hcb
    have hs' : st.size + 1 = (w'.hdr c).size := by
      rw [h.size, hsize]
    refine ⟨hpre, ?_, hs', ?_, ?_⟩
    · show newCapacity cfg.maxSize st.cap (st.size + 1) = _
      rw [(h.grown hlt).2, hcap, hsize]
    · show nAlloc w'.trace ≤ b + (st.allocs + 1)
      omega
    · show nCtor w'.trace ≤ bc + (k + 1) + (st.relocs + st.size)
      omega

theorem pushRun_simulates (cfg : Cfg) (c : Nat) (hpol : StrongPolicy cfg) :
    ∀ (vs : List α) (w w' : World α) (st : St) (b bc k : Nat), Pre cfg w c → st.cap = (w.hdr c).cap → st.size = (w.hdr c).size →
      nAlloc w.trace ≤ b + st.allocs → nCtor w.trace ≤ bc + k + st.relocs → pushRun cfg c vs w = some w' →
      Pre cfg w' c ∧ (pushN cfg.maxSize vs.length st).cap = (w'.hdr c).cap ∧ (pushN cfg.maxSize vs.length st).size = (w'.hdr c).size ∧
      nAlloc w'.trace ≤ b + (pushN cfg.maxSize vs.length st).allocs ∧
      nCtor w'.trace ≤ bc + (k + vs.length) + (pushN cfg.maxSize vs.length st).relocs
  | [], w, w', st, b, bc, k, hp, hc, hs, ha, hct, hr => by
    injection hr with hr; subst hr
    exact ⟨hp, hc, hs, ha, hct⟩
  | v :: vs, w, w', st, b, bc, k, hp, hc, hs, ha, hct, hr => by
    unfold pushRun at hr
    cases h1 : appendElement cfg c (.ext v) w with
    | thrown e w1 => rw [h1] at hr; cases hr
    | ok r w1 =>
      rw [h1] at hr
      obtain ⟨hp1, hc1, hs1, ha1, hct1⟩ := push_simulates cfg c v w w1 r st b bc k hp hpol hc hs ha hct h1
      have := pushRun_simulates cfg c hpol vs w1 w' (push cfg.maxSize st) b bc (k + 1) hp1 hc1 hs1 ha1 hct1 hr
      rw [show k + 1 + vs.length = k + (vs.length + 1) by omega] at this
      exact this

/-- C14 on the L2 model: from ANY valid state of a container (capacity c0 — the inline capacity, or whatever it has grown
    to), n push_backs that return add `a` allocation events with  2^a · max c0 1 ≤ max (2 · capacity') (max c0 1)  and
    capacity' ≤ max c0 (2 · size'): logarithmically many allocations, for every n, every inline capacity incl. 0, every
    element flavour and allocator configuration -/
theorem l2_push_allocs_log (cfg : Cfg) (c : Nat) (hpol : StrongPolicy cfg) (vs : List α) (w w' : World α)
    (hp : Pre cfg w c) (hm : 2 * ((w.hdr c).size + vs.length) < cfg.maxSize) (hr : pushRun cfg c vs w = some w') :
    (w'.hdr c).size = (w.hdr c).size + vs.length ∧
    (w'.hdr c).cap ≤ max (w.hdr c).cap (2 * (w'.hdr c).size) ∧
    2 ^ (nAlloc w'.trace - nAlloc w.trace) * max (w.hdr c).cap 1 ≤ max (2 * (w'.hdr c).cap) (max (w.hdr c).cap 1) := by
  let st : St := { cap := (w.hdr c).cap, size := (w.hdr c).size, allocs := 0, relocs := 0 }
  obtain ⟨_, hc', hs', ha', _⟩ := pushRun_simulates cfg c hpol vs w w' st (nAlloc w.trace) (nCtor w.trace) 0 hp rfl rfl
    (Nat.le_refl _) (Nat.le_refl _) hr
  obtain ⟨hInv, hsz⟩ := pushN_inv cfg.maxSize (w.hdr c).cap vs.length st (inv_start _ _ hp.vec.size_le) hm
  have hsz' : (w'.hdr c).size = (w.hdr c).size + vs.length := by rw [← hs', hsz]
  refine ⟨hsz', ?_, ?_⟩
  · have := hInv.cap; rw [hc', hs'] at this; exact this
  · have hpot := hInv.pot
    rw [hc'] at hpot
    have hle : nAlloc w'.trace - nAlloc w.trace ≤ (pushN cfg.maxSize vs.length st).allocs := by omega
    exact Nat.le_trans (Nat.mul_le_mul_right _ (Nat.pow_le_pow_right (by omega) hle)) hpot

/-- C14 on the L2 model, relocations: a run of n returning push_backs from any valid state adds at most
    n + (capacity' − c0) construction events — the n new elements plus fewer than capacity' ≤ max c0 (2·size') relocated
    ones: linear in n, for every inline capacity, start state, element flavour and allocator configuration -/
theorem l2_push_constructions_linear (cfg : Cfg) (c : Nat) (hpol : StrongPolicy cfg) (vs : List α) (w w' : World α)
    (hp : Pre cfg w c) (hm : 2 * ((w.hdr c).size + vs.length) < cfg.maxSize) (hr : pushRun cfg c vs w = some w') :
    nCtor w'.trace - nCtor w.trace + (w.hdr c).cap ≤ vs.length + (w'.hdr c).cap ∧
    (w'.hdr c).cap ≤ max (w.hdr c).cap (2 * ((w.hdr c).size + vs.length)) := by
  let st : St := { cap := (w.hdr c).cap, size := (w.hdr c).size, allocs := 0, relocs := 0 }
  obtain ⟨_, hc', hs', _, hct⟩ := pushRun_simulates cfg c hpol vs w w' st (nAlloc w.trace) (nCtor w.trace) 0 hp rfl rfl
    (Nat.le_refl _) (Nat.le_refl _) hr
  obtain ⟨hInv, hsz⟩ := pushN_inv cfg.maxSize (w.hdr c).cap vs.length st (inv_start _ _ hp.vec.size_le) hm
  have hrel := pushN_relocs cfg.maxSize (w.hdr c).cap vs.length st (inv_start _ _ hp.vec.size_le) (by show 0 + (w.hdr c).cap ≤ (w.hdr c).cap; omega) hm
  rw [hc'] at hrel
  refine ⟨by omega, ?_⟩
  have := hInv.cap
  rw [hc', hsz] at this
  exact this

/-- non-vacuity: ten push_backs onto the full inline container [1, 2] (N = 2) of Proofs/Examples.lean all return, the
    capacity goes 2 → 4 → 8 → 16 and exactly three allocation events are added -/
example : (match pushRun Ex.cfgT 0 [3, 4, 5, 6, 7, 8, 9, 10, 11, 12] Ex.w0 with
           | some w' => (w'.hdr 0).size == 12 && (w'.hdr 0).cap == 16 && nAlloc w'.trace - nAlloc Ex.w0.trace == 3 &&
                        nCtor w'.trace - nCtor Ex.w0.trace == 10 + (2 + 4 + 8)
           | none => false) = true := by decide +kernel

end SvModel.C14
