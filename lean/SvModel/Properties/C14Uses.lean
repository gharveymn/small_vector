/-
C14, L2 side — every growing path of the slot-machine model obtains its new capacity from the GENERATED growth function
(`Gen.newCapacity`, re-translated from `unchecked_calculate_new_capacity` on every run), so the geometric-growth
theorems of Properties/C14.lean apply to push_back / emplace_back, insert / emplace of one element, append (range),
insert (end, n, x), assign (n, x), assign (range) and reserve: when the call reallocates, the new capacity () is
`newCapacity max_size capacity required`, hence ≥ required, ≤ max_size, and either max_size or at least twice the old.
-/
import SvModel.Properties.C14
import SvModel.Properties.Core
import SvModel.Properties.InsertProps
import SvModel.Properties.AssignProps

namespace SvModel.C14
open SvModel Gen
variable {α : Type}

theorem growth_facts (m cap req : Nat) (h1 : cap < req) (h2 : req ≤ m) :
    req ≤ newCapacity m cap req ∧ newCapacity m cap req ≤ m ∧
    (newCapacity m cap req = m ∨ 2 * cap ≤ newCapacity m cap req) ∧ (newCapacity m cap req = m ∨ 3 * cap ≤ 2 * newCapacity m cap req) :=
  ⟨(grow_ge_req m cap req h1 h2).1, (grow_ge_req m cap req h1 h2).2, grow_ge_double_or_max m cap req, grow_ge_1_5x m cap req⟩

/-- push_back / emplace_back into a full container -/
theorem uses_growth_push_back (cfg : Cfg) (c : Nat) (s : Src α) (w w' : World α) (r : Nat)
    (hp : Pre cfg w c) (ha : ArgOK cfg w c s) (hpol : StrongPolicy cfg) (hfull : ¬ (w.hdr c).size < (w.hdr c).cap)
    (hr : appendElement cfg c s w = .ok r w') :
    (w'.hdr c).cap = newCapacity cfg.maxSize (w.hdr c).cap ((w.hdr c).size + 1) :=
  ((sat_of_ok (hp.use (appendElement_sat cfg c s w) hp.nmax ha hpol) hr).2.grown hfull).2

/-- insert (pos, x) / emplace (pos, x) into a full container -/
theorem uses_growth_insert (cfg : Cfg) (c pos : Nat) (s : Src α) (rv : Bool) (w w' : World α) (r : Nat)
    (hp : Pre cfg w c) (ha : ArgOK cfg w c s) (hrv : rv = true → ∃ a, s = .extMove a) (hpol : StrongPolicy cfg)
    (hpos : pos ≤ (w.hdr c).size) (hfull : ¬ (w.hdr c).size < (w.hdr c).cap) (hr : emplaceAt cfg c pos s rv w = .ok r w') :
    (w'.hdr c).cap = newCapacity cfg.maxSize (w.hdr c).cap ((w.hdr c).size + 1) :=
  (C10.insert_grows cfg c pos s rv w w' r hp ha hrv hpol hpos hfull hr).2

/-- append (first, last) that does not fit -/
theorem uses_growth_append (cfg : Cfg) (c : Nat) (vs : List α) (w w' : World α) (r : Nat)
    (hp : Pre cfg w c) (hpol : StrongPolicy cfg) (hgrow : ¬ (w.hdr c).size + vs.length ≤ (w.hdr c).cap)
    (hr : appendRangeFwd cfg c true (vs.map Src.ext) w = .ok r w') :
    (w'.hdr c).cap = newCapacity cfg.maxSize (w.hdr c).cap ((w.hdr c).size + vs.length) := by
  have h := (sat_of_ok (hp.sat_appendRangeFwd true vs hpol) hr).2.grown
  rw [List.length_map] at h
  exact (h hgrow).2

/-- assign (n, x) beyond the capacity -/
theorem uses_growth_assign (cfg : Cfg) (c n : Nat) (a : α) (w w' : World α) (hp : Pre cfg w c) (hgrow : (w.hdr c).cap < n)
    (hr : assignWithCopies cfg c n (.ext a) w = .ok () w') :
    (w'.hdr c).cap = newCapacity cfg.maxSize (w.hdr c).cap n :=
  (C10.assign_n_grows cfg c n a w w' hp hgrow hr).2

/-- reserve (n) beyond the capacity -/
theorem uses_growth_reserve (cfg : Cfg) (c n : Nat) (w w' : World α) (hp : Pre cfg w c) (hpol : StrongPolicy cfg)
    (hgrow : ¬ n ≤ (w.hdr c).cap) (hr : requestCapacity cfg c n w = .ok () w') :
    (w'.hdr c).cap = newCapacity cfg.maxSize (w.hdr c).cap n :=
  ((sat_of_ok (hp.use (requestCapacity_sat cfg c n w) hpol) hr).2.2.2 hgrow).1

/-- the property's clause for push_back on the L2 model: a reallocating push_back that returns leaves a capacity of at
    least size + 1, at most max_size, and at least 1.5 × (indeed 2 ×) the old capacity unless saturated at max_size -/
theorem push_back_growth_is_geometric (cfg : Cfg) (c : Nat) (s : Src α) (w w' : World α) (r : Nat)
    (hp : Pre cfg w c) (ha : ArgOK cfg w c s) (hpol : StrongPolicy cfg) (hfull : ¬ (w.hdr c).size < (w.hdr c).cap)
    (hroom : (w.hdr c).size + 1 ≤ cfg.maxSize) (hr : appendElement cfg c s w = .ok r w') :
    (w.hdr c).size + 1 ≤ (w'.hdr c).cap ∧ (w'.hdr c).cap ≤ cfg.maxSize ∧
    ((w'.hdr c).cap = cfg.maxSize ∨ 3 * (w.hdr c).cap ≤ 2 * (w'.hdr c).cap) := by
  rw [uses_growth_push_back cfg c s w w' r hp ha hpol hfull hr]
  have hsz := hp.vec.size_le
  have := growth_facts cfg.maxSize (w.hdr c).cap ((w.hdr c).size + 1) (by omega) hroom
  exact ⟨this.1, this.2.1, this.2.2.2⟩

end SvModel.C14
