/-
C10 (last clause) / C14: "a growing call that knows its element count up front (everything except single-pass ranges)
moves the contents to a new buffer at most once" — as a statement about the event trace: every such call adds AT MOST ONE
allocation event, whether it returns or throws, in EVERY world and for EVERY fault list (no invariant is needed: the
bound is structural — Proofs/AllocCount.lean); pop_back, erase and clear add none.
-/
import SvModel.Proofs.AllocCount
import SvModel.Proofs.Examples

namespace SvModel.C10
open SvModel Gen
variable {α : Type}

/-- the number of allocator calls a run added to the trace -/
def allocsAdded {β : Type} (m : M α β) (w : World α) : Nat := nAlloc (m w).world.trace - nAlloc w.trace

theorem allocsAdded_le {β : Type} {m : M α β} {k : Nat} (h : AB k m) (w : World α) : allocsAdded m w ≤ k := by
  have := h w; unfold allocsAdded; omega

/-- every growing call with a known element count allocates at most once -/
theorem at_most_one_allocation (cfg : Cfg) (c : Nat) (w : World α) :
    (∀ s, allocsAdded (appendElement cfg c s) w ≤ 1) ∧                                  -- push_back / emplace_back
    (∀ pos s rv, allocsAdded (emplaceAt cfg c pos s rv) w ≤ 1) ∧                        -- insert (pos, x) / emplace (pos, args)
    (∀ pos n s, allocsAdded (insertCopies cfg c pos n s) w ≤ 1) ∧                       -- insert (pos, n, x)
    (∀ pos srcs, allocsAdded (insertRangeFwd cfg c pos srcs) w ≤ 1) ∧                   -- insert (pos, first, last), multi-pass
    (∀ strong srcs, allocsAdded (appendRangeFwd cfg c strong srcs) w ≤ 1) ∧             -- append (first, last), multi-pass
    (∀ n s, allocsAdded (appendCopies cfg c n s) w ≤ 1) ∧                               -- append (n, x)
    (∀ n s, allocsAdded (resizeWith cfg c n s) w ≤ 1) ∧                                 -- resize
    (∀ n s, allocsAdded (assignWithCopies cfg c n s) w ≤ 1) ∧                           -- assign (n, x)
    (∀ srcs, allocsAdded (assignWithRangeFwd cfg c srcs) w ≤ 1) ∧                       -- assign (first, last), multi-pass
    (∀ n, allocsAdded (requestCapacity cfg c n) w ≤ 1) ∧                                -- reserve
    allocsAdded (shrinkToSize cfg c) w ≤ 1 :=                                           -- shrink_to_fit
  ⟨fun s => allocsAdded_le (Counts.isAlloc.appendElement cfg c s).ab w,
   fun pos s rv => allocsAdded_le (Counts.isAlloc.emplaceAt cfg c pos s rv).ab w,
   fun pos n s => allocsAdded_le (Counts.isAlloc.insertCopies cfg c pos n s).ab w,
   fun pos srcs => allocsAdded_le (Counts.isAlloc.insertRangeFwd cfg c pos srcs).ab w,
   fun strong srcs => allocsAdded_le (Counts.isAlloc.appendRangeFwd cfg c strong srcs).ab w,
   fun n s => allocsAdded_le (Counts.isAlloc.appendCopies cfg c n s).ab w,
   fun n s => allocsAdded_le (Counts.isAlloc.resizeWith cfg c n s).ab w,
   fun n s => allocsAdded_le (Counts.isAlloc.assignWithCopies cfg c n s).ab w,
   fun srcs => allocsAdded_le (Counts.isAlloc.assignWithRangeFwd cfg c srcs).ab w,
   fun n => allocsAdded_le (Counts.isAlloc.requestCapacity cfg c n).ab w,
   allocsAdded_le (Counts.isAlloc.shrinkToSize cfg c).ab w⟩

/-- pop_back, erase (pos), erase (first, last) and clear never call the allocator -/
theorem erase_family_allocates_nothing (cfg : Cfg) (c : Nat) (w : World α) :
    allocsAdded (eraseLast cfg c) w = 0 ∧ (∀ pos, allocsAdded (eraseAt cfg c pos) w = 0) ∧
    (∀ p q, allocsAdded (eraseRange cfg c p q) w = 0) ∧ allocsAdded (eraseAll cfg c) w = 0 :=
  ⟨Nat.le_zero.mp (allocsAdded_le (Counts.isAlloc.eraseLast cfg c).ab w), fun pos => Nat.le_zero.mp (allocsAdded_le (Counts.isAlloc.eraseAt cfg c pos).ab w),
   fun p q => Nat.le_zero.mp (allocsAdded_le (Counts.isAlloc.eraseRange cfg c p q).ab w), Nat.le_zero.mp (allocsAdded_le (Counts.isAlloc.eraseAll cfg c).ab w)⟩

/-- non-vacuity: the bound is attained — a push_back on the full inline container [1, 2] of Proofs/Examples.lean, and an
    insert of three values at position 1 of it, each add exactly one allocation event; a pop_back adds none -/
example : allocsAdded (appendElement Ex.cfgT 0 (.ext 9)) Ex.w0 = 1 ∧
    allocsAdded (insertRangeFwd Ex.cfgT 0 1 [.ext 7, .ext 8, .ext 9]) Ex.w0 = 1 ∧
    allocsAdded (eraseLast Ex.cfgT 0) Ex.w0 = 0 := by decide +kernel

end SvModel.C10
