/-
C15 — Single-pass inputs are consumed exactly once, in order, never past the end.

The L2 model logs a `deref s p` / `incr s p` event for every dereference / increment of position `p` of input stream
`s` (Api.lean: the C++ harness logs the same events from an instrumented single-pass iterator, and the differential run
compares the two event sequences for every length, start state and fault index).  Theorems: for `append` / range
construction / `insert` at end from an input range of ANY length, on normal return the iterator events added to the trace
are exactly `deref p, incr p, deref p+1, incr p+1, …` for the n positions (each position dereferenced exactly once and
incremented exactly once, in sequence order, nothing at or beyond `last`), and the contents are those a random-access
range gives (`xs ++ values`); after a throw the events are a prefix ending in the dereference whose element failed.
-/
import SvModel.Proofs.InputRange
import SvModel.Proofs.InputAssign
import SvModel.Proofs.InputMid
import SvModel.Proofs.Examples
import SvModel.Spec.L0

namespace SvModel.C15
open SvModel Gen
variable {α : Type}

/-- `append_range` for input iterators is its consuming loop, started at the current size -/
theorem appendRangeInput_sat (cfg : Cfg) (c : Nat) (strong : Bool) (sid p : Nat) (vs : List α) (w : World α)
    (hv : VecOK cfg w c) (hl : Ledger w) (hN : (w.hdr c).N ≤ cfg.maxSize) (hpol : movesFor cfg true = true → cfg.tMove = false) :
    (appendRangeInput cfg c strong sid p vs w).sat
      (fun _ w' => Basic cfg w w' c ∧ (∀ ys, Holds w c ys → Holds w' c (ys ++ vs.map Val.val)) ∧
                   iterEvs w'.trace = iterEvs w.trace ++ streamEvs sid p vs.length)
      (fun _ w' => Basic cfg w w' c ∧
                   (∀ ys, Holds w c ys → ∃ k, k < vs.length ∧
                      Holds w' c (if strong then ys.take (w.hdr c).size else ys ++ (vs.take k).map Val.val) ∧
                      iterEvs w'.trace = iterEvs w.trace ++ streamEvs sid p k ++ [.deref sid (p + k)])) := by
  unfold appendRangeInput
  rw [getV_bind]
  exact sat_bind (appendRangeInputLoop_sat cfg c strong (w.hdr c).size sid hpol vs p w hv hl hN (Nat.le_refl _))
    (fun _ _ h => h) (fun _ _ h => h)

/-- append(first, last) / insert(end(), first, last) / range construction with input iterators -/
theorem stream_once (cfg : Cfg) (c : Nat) (strong : Bool) (sid p : Nat) (vs : List α) (w w' : World α) (r : Nat)
    (hv : VecOK cfg w c) (hl : Ledger w) (hN : (w.hdr c).N ≤ cfg.maxSize)
    (hpol : movesFor cfg true = true → cfg.tMove = false)
    (hr : appendRangeInput cfg c strong sid p vs w = .ok r w') :
    iterEvs w'.trace = iterEvs w.trace ++ streamEvs sid p vs.length :=
  (sat_of_ok (appendRangeInput_sat cfg c strong sid p vs w hv hl hN hpol) hr).2.2

/-- the result equals that of the same call with a random-access range -/
theorem input_eq_random_access (cfg : Cfg) (c : Nat) (strong : Bool) (sid p : Nat) (vs : List α) (w w' : World α) (r : Nat)
    (xs : List (Val α)) (hv : VecOK cfg w c) (hl : Ledger w) (hN : (w.hdr c).N ≤ cfg.maxSize)
    (hpol : movesFor cfg true = true → cfg.tMove = false) (hx : Holds w c xs)
    (hr : appendRangeInput cfg c strong sid p vs w = .ok r w') :
    Holds w' c (L0.append xs (vs.map Val.val)) ∧ VecOK cfg w' c :=
  have h := sat_of_ok (appendRangeInput_sat cfg c strong sid p vs w hv hl hN hpol) hr
  ⟨h.2.1 xs hx, h.1.vec⟩

/-- after a throw: a valid container; under the strong policy (the public `append`) the original contents; and the
    iterator was advanced over exactly the elements already consumed, the failing element having been dereferenced once -/
theorem stream_prefix_on_throw (cfg : Cfg) (c : Nat) (strong : Bool) (sid p : Nat) (vs : List α) (w w' : World α) (e : Exc)
    (xs : List (Val α)) (hv : VecOK cfg w c) (hl : Ledger w) (hN : (w.hdr c).N ≤ cfg.maxSize)
    (hpol : movesFor cfg true = true → cfg.tMove = false) (hx : Holds w c xs)
    (hr : appendRangeInput cfg c strong sid p vs w = .thrown e w') :
    VecOK cfg w' c ∧ Ledger w' ∧ ∃ k, k < vs.length ∧
      Holds w' c (if strong then xs else xs ++ (vs.take k).map Val.val) ∧
      iterEvs w'.trace = iterEvs w.trace ++ streamEvs sid p k ++ [.deref sid (p + k)] := by
  have h := sat_of_thrown (appendRangeInput_sat cfg c strong sid p vs w hv hl hN hpol) hr
  obtain ⟨k, hk, hh, htr⟩ := h.2 xs hx
  refine ⟨h.1.vec, h.1.led, k, hk, ?_, htr⟩
  rw [List.take_of_length_le (by rw [hx.1]; exact Nat.le_refl _)] at hh
  exact hh

/-- what `streamEvs` says: position q of the n consumed positions is dereferenced exactly once and incremented exactly once,
    and no position ≥ p + n appears at all -/
theorem streamEvs_count (sid p n q : Nat) :
    (streamEvs sid p n).count (.deref sid q) = (if p ≤ q ∧ q < p + n then 1 else 0) ∧
    (streamEvs sid p n).count (.incr sid q) = (if p ≤ q ∧ q < p + n then 1 else 0) := by
  induction n generalizing p with
  | zero => simp [streamEvs]
  | succ n ih =>
    obtain ⟨h1, h2⟩ := ih (p + 1)
    simp only [streamEvs, List.count_cons, h1, h2]
    constructor
    · by_cases hq : q = p
      · subst hq; simp; omega
      · have e1 : (Ev.deref sid p == Ev.deref sid q) = false := by simp; omega
        have e2 : (Ev.incr sid p == Ev.deref sid q) = false := by simp
        simp only [e1, e2]
        by_cases h : p + 1 ≤ q ∧ q < p + 1 + n
        · simp [h]; omega
        · simp [h]; omega
    · by_cases hq : q = p
      · subst hq; simp; omega
      · have e1 : (Ev.deref sid p == Ev.incr sid q) = false := by simp
        have e2 : (Ev.incr sid p == Ev.incr sid q) = false := by simp; omega
        simp only [e1, e2]
        by_cases h : p + 1 ≤ q ∧ q < p + 1 + n
        · simp [h]; omega
        · simp [h]; omega

/-- non-vacuity: three elements appended from an input stream to the full inline container of Proofs/Examples.lean -/
example : (match appendRangeInput Ex.cfgT 0 true 7 0 [10, 11, 12] Ex.w0 with
           | .ok r w' => r == 2 && iterEvs w'.trace == [.deref 7 0, .incr 7 0, .deref 7 1, .incr 7 1, .deref 7 2, .incr 7 2]
           | .thrown _ _ => false) = true := by decide +kernel

/-- assign (first, last) with input iterators, on return: every position dereferenced once then incremented once, in
    order, nothing at or beyond `last`; the contents are the range's values — whatever the container held and whatever its
    size was (shorter, equal or longer than the range) -/
theorem assign_stream_once (cfg : Cfg) (c sid : Nat) (vs : List α) (w w' : World α) (u : Unit)
    (hv : VecOK cfg w c) (hl : Ledger w) (hN : (w.hdr c).N ≤ cfg.maxSize)
    (hpol : movesFor cfg true = true → cfg.tMove = false)
    (hr : assignWithRangeInput cfg c sid vs w = .ok u w') :
    iterEvs w'.trace = iterEvs w.trace ++ streamEvs sid 0 vs.length ∧
    (∀ xs, Holds w c xs → Holds w' c (L0.assignRange (vs.map Val.val))) ∧ VecOK cfg w' c ∧ Ledger w' := by
  have h := assignWithRangeInput_sat cfg c sid vs w hv hl hN hpol
  rw [hr] at h
  exact ⟨h.2.2, fun xs hx => h.2.1 xs hx, h.1.vec, h.1.led⟩

/-- … after a throw: a valid container, and the iterator was advanced over exactly the elements already consumed, the
    failing element having been dereferenced once -/
theorem assign_stream_prefix_on_throw (cfg : Cfg) (c sid : Nat) (vs : List α) (w w' : World α) (e : Exc)
    (hv : VecOK cfg w c) (hl : Ledger w) (hN : (w.hdr c).N ≤ cfg.maxSize)
    (hpol : movesFor cfg true = true → cfg.tMove = false)
    (hr : assignWithRangeInput cfg c sid vs w = .thrown e w') :
    VecOK cfg w' c ∧ Ledger w' ∧ ∃ k, k < vs.length ∧
      iterEvs w'.trace = iterEvs w.trace ++ streamEvs sid 0 k ++ [.deref sid k] := by
  have h := assignWithRangeInput_sat cfg c sid vs w hv hl hN hpol
  rw [hr] at h
  exact ⟨h.1.vec, h.1.led, h.2⟩

/-- MID-SEQUENCE insert of a single-pass range (`insert (pos, first, last)`, `pos ≠ end ()`: temporary container, then
    move-insert), on return, for EVERY world and fault list: each position dereferenced once then incremented once, in
    order, nothing at or beyond `last` — and nothing else in the whole operation (temporary, reallocation, shifting,
    destruction) touches the iterator -/
theorem insert_mid_stream_once (cfg : Cfg) (c pos sid : Nat) (vs : List α) (w w' : World α) (r : Nat)
    (hr : insertRangeInputMid cfg c pos sid vs w = .ok r w') :
    iterEvs w'.trace = iterEvs w.trace ++ streamEvs sid 0 vs.length := by
  have h := insertRangeInputMid_iter cfg c pos sid vs w
  rw [hr] at h; exact h

/-- … after a throw: either the whole range had been consumed exactly once (the throw came from the insertion of the
    buffered elements) or a prefix, the failing element having been dereferenced once and not incremented -/
theorem insert_mid_stream_prefix_on_throw (cfg : Cfg) (c pos sid : Nat) (vs : List α) (w w' : World α) (e : Exc)
    (hr : insertRangeInputMid cfg c pos sid vs w = .thrown e w') :
    iterEvs w'.trace = iterEvs w.trace ++ streamEvs sid 0 vs.length ∨
    ∃ k, k < vs.length ∧ iterEvs w'.trace = iterEvs w.trace ++ streamEvs sid 0 k ++ [.deref sid k] := by
  have h := insertRangeInputMid_iter cfg c pos sid vs w
  rw [hr] at h
  rcases h with h | ⟨k, hk, h⟩
  · exact Or.inl h
  · exact Or.inr ⟨k, hk, by simpa using h⟩

/-- non-vacuity: two elements inserted at position 1 of the full inline container of Proofs/Examples.lean (reallocates),
    and the same call with a fault at the second element's construction in the temporary -/
example : (match insertRangeInputMid Ex.cfgT 0 1 7 [10, 11] Ex.w0 with
           | .ok r w' => r == 1 && iterEvs w'.trace == [.deref 7 0, .incr 7 0, .deref 7 1, .incr 7 1] &&
                         (w'.mem (w'.hdr 0).data).take 4 == [.obj (.val 1), .obj (.val 10), .obj (.val 11), .obj (.val 2)]
           | .thrown _ _ => false) = true := by decide +kernel
example : (match insertRangeInputMid Ex.cfgT 0 1 7 [10, 11] { Ex.w0 with faults := [1] } with
           | .ok _ _ => false
           | .thrown _ w' => iterEvs w'.trace == [.deref 7 0, .incr 7 0, .deref 7 1] && w'.live == [] &&
                             (w'.mem (w'.hdr 0).data).take 2 == [.obj (.val 1), .obj (.val 2)]) = true := by decide +kernel

end SvModel.C15
