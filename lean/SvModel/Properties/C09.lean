/-
C09 — Moves and swaps steal heap buffers in O(1) and leave a clean source.

`StealAllowed v ov`: the source `ov` is heap-allocated (`ov.N < ov.cap`) and its buffer is larger than the
destination's inline capacity (`v.N < ov.cap`).  `Interchangeable`: the allocators may exchange buffers
(`allocations_are_movable` — std::allocator, always-equal or propagating — or equal at run time).

Theorems (for EVERY world: any contents, sizes, fault list, trace; any pair of inline capacities, N<M, N=M, N>M, 0):
 * `move_ctor_steals`        move construction, stealing permitted  ⇒ the result is `ok` and is the input world with the
                             two headers rewritten: destination (data, cap, size) := source's, source := (inline, N, 0).
                             Memory, trace, fault list, allocation counter are *identical*: no element constructed, assigned
                             or destroyed, no allocation, no throw, element addresses (block, index) preserved.
 * `move_ctor_alloc_steals`  same for the allocator-extended move constructor with an equal allocator.
 * `move_assign_steals`      move assignment, stealing permitted and allocators interchangeable ⇒ it is exactly
                             `wipe` of the destination's old contents followed by the header hand-over; the transferred
                             buffer's memory is untouched (`move_assign_steals_buffer`, under the invariant).
 * `swap_steals`             swap of two heap containers with interchangeable allocators ⇒ pure header exchange.
 * `steal_leaves_valid`      after the hand-over both containers satisfy the invariant `VecOK` (the stolen-from source is
                             empty, inlined, reusable).
The contrapositive of the first four is the property's "element-wise transfer happens only when stealing is
impossible": whenever the model (and, by the differential tie on the shape/life/trace channels, the code) moves elements
one by one, `StealAllowed ∧ Interchangeable` was false.  The steal tests themselves are the generated guards
(`Gen.guard_moveInitialize*`, `guard_moveAssignDefault*`, `guard_moveAssign1_0`, `guard_swap*`), i.e. the header's own
`if` conditions.
-/
import SvModel.Proofs.Kernel
import SvModel.Proofs.Examples
import SvModel.Proofs.GuardEqs

namespace SvModel.C09
open SvModel Gen
variable {α : Type}

/-- the source is on the heap and its buffer is larger than the destination's inline capacity -/
def StealAllowed (v ov : Vec) : Prop := ov.N < ov.cap ∧ v.N < ov.cap

instance (v ov : Vec) : Decidable (StealAllowed v ov) := by unfold StealAllowed; exact inferInstance

/-- allocators may exchange buffers for move assignment -/
def InterchangeableMove (cfg : Cfg) (v ov : Vec) : Prop := allocationsAreMovable cfg.policy = true ∨ ov.alloc = v.alloc
/-- … for swap -/
def InterchangeableSwap (cfg : Cfg) (v ov : Vec) : Prop := allocationsAreSwappable cfg.policy = true ∨ ov.alloc = v.alloc

/-- the header hand-over: destination takes (data, cap, size) of the source; the source becomes empty and inlined -/
def handOver (w : World α) (c o : Nat) : World α :=
  let ov := w.hdr o
  let h1 := upd w.hdr c { w.hdr c with data := ov.data, cap := ov.cap, size := ov.size }
  let h2 := upd h1 o { h1 o with cap := (h1 o).N, data := (h1 o).inl }
  { w with hdr := upd h2 o { h2 o with size := 0 } }

theorem handOver_mem (w : World α) (c o : Nat) : (handOver w c o).mem = w.mem := rfl
theorem handOver_trace (w : World α) (c o : Nat) : (handOver w c o).trace = w.trace := rfl
theorem handOver_faults (w : World α) (c o : Nat) : (handOver w c o).faults = w.faults := rfl
theorem handOver_next (w : World α) (c o : Nat) : (handOver w c o).next = w.next := rfl
theorem handOver_live (w : World α) (c o : Nat) : (handOver w c o).live = w.live := rfl

theorem handOver_hdr_dst (w : World α) (c o : Nat) (hne : c ≠ o) :
    (handOver w c o).hdr c = { w.hdr c with data := (w.hdr o).data, cap := (w.hdr o).cap, size := (w.hdr o).size } := by
  show upd (upd (upd w.hdr c _) o _) o _ c = _
  rw [upd_other _ _ _ _ hne, upd_other _ _ _ _ hne, upd_same]

theorem handOver_hdr_src (w : World α) (c o : Nat) (hne : c ≠ o) :
    (handOver w c o).hdr o = { w.hdr o with cap := (w.hdr o).N, data := (w.hdr o).inl, size := 0 } := by
  show upd (upd (upd w.hdr c _) o _) o _ o = _
  rw [upd_same, upd_same, upd_other _ _ _ _ hne.symm]

theorem handOver_dst (w : World α) (c o : Nat) (hne : c ≠ o) :
    ((handOver w c o).hdr c).data = (w.hdr o).data ∧ ((handOver w c o).hdr c).cap = (w.hdr o).cap ∧
    ((handOver w c o).hdr c).size = (w.hdr o).size ∧ ((handOver w c o).hdr c).alloc = (w.hdr c).alloc := by
  rw [handOver_hdr_dst w c o hne]
  exact ⟨rfl, rfl, rfl, rfl⟩

theorem handOver_src (w : World α) (c o : Nat) (hne : c ≠ o) :
    ((handOver w c o).hdr o).data = (w.hdr o).inl ∧ ((handOver w c o).hdr o).cap = (w.hdr o).N ∧
    ((handOver w c o).hdr o).size = 0 ∧ ((handOver w c o).hdr o).alloc = (w.hdr o).alloc := by
  rw [handOver_hdr_src w c o hne]
  exact ⟨rfl, rfl, rfl, rfl⟩

theorem steal_run (c o : Nat) (w : World α) :
    (setData c (w.hdr o).data (w.hdr o).cap (w.hdr o).size >>= fun _ => setDefault o) w = .ok () (handOver w c o) := rfl

/-- move_initialize and move_assign_default select among three overloads by the inline capacities, each testing its
    own half of `StealAllowed`: when stealing is allowed all three take the stealing branch -/
theorem steal_branch {β : Type} {v ov : Vec} (h : StealAllowed v ov) {g1 g2 : Bool}
    (e1 : g1 = decide (v.N < ov.cap)) (e2 : g2 = decide (ov.N < ov.cap)) (steal a b : β) :
    (if v.N = 0 ∧ ov.N = 0 then steal else if ov.N ≤ v.N then (if g1 then steal else a) else (if g2 then steal else b)) = steal := by
  rw [e1, e2, if_pos (decide_eq_true h.2), if_pos (decide_eq_true h.1)]
  split
  · rfl
  · split <;> rfl

theorem moveInitialize_steals (cfg : Cfg) (c o : Nat) (w : World α) (h : StealAllowed (w.hdr c) (w.hdr o)) :
    moveInitialize cfg c o w = .ok () (handOver w c o) := by
  unfold moveInitialize
  rw [getV_bind, getV_bind, steal_branch h (guard_moveInitialize1_0_eq ..) (guard_moveInitialize2_0_eq ..)]
  rfl

/-- the world handed to move_initialize by the move constructor: the new object's allocator is the source's -/
def ctorMovePre (w : World α) (c o : Nat) : World α :=
  { w with hdr := upd w.hdr c { w.hdr c with alloc := (w.hdr o).alloc } }

theorem StealAllowed.ctorMovePre {w : World α} {c o : Nat} (h : StealAllowed (w.hdr c) (w.hdr o)) (hne : c ≠ o) :
    StealAllowed ((ctorMovePre w c o).hdr c) ((ctorMovePre w c o).hdr o) := by
  show StealAllowed (upd w.hdr c _ c) (upd w.hdr c _ o)
  rw [upd_same, upd_other _ _ _ _ hne.symm]
  exact h

/-- move construction, stealing permitted: O(1), nothing but the two headers changes -/
theorem move_ctor_steals (cfg : Cfg) (c o : Nat) (hne : c ≠ o) (w : World α) (h : StealAllowed (w.hdr c) (w.hdr o)) :
    ctorMove cfg c o w = .ok () (handOver (ctorMovePre w c o) c o) := by
  unfold ctorMove
  rw [getV_bind]
  exact moveInitialize_steals cfg c o _ (h.ctorMovePre hne)

/-- allocator-extended move construction with an allocator equal to the source's -/
theorem move_ctor_alloc_steals (cfg : Cfg) (c o a : Nat) (hne : c ≠ o) (w : World α) (h : StealAllowed (w.hdr c) (w.hdr o))
    (ha : (w.hdr o).alloc = a) :
    ctorMoveAlloc cfg c o a w = .ok () (handOver (ctorMovePre w c o) c o) := by
  unfold ctorMoveAlloc
  by_cases hd : ctorMoveAllocDelegates cfg.policy = true
  · rw [if_pos hd]
    exact move_ctor_steals cfg c o hne w h
  · subst ha
    rw [if_neg hd, getV_bind, bind_run]
    show (if (w.hdr o).alloc = (w.hdr o).alloc then moveInitialize cfg c o else _) (ctorMovePre w c o) = _
    rw [if_pos rfl]
    exact moveInitialize_steals cfg c o _ (h.ctorMovePre hne)

/-- consequences spelled out: destination's data () is the source's old data (), the memory (every element, at its
    address) is unchanged, nothing was traced (no element operation, no allocation), the source is empty and inlined -/
theorem move_ctor_steals_facts (cfg : Cfg) (c o : Nat) (hne : c ≠ o) (w : World α) (h : StealAllowed (w.hdr c) (w.hdr o)) :
    ∃ w', ctorMove cfg c o w = .ok () w' ∧ w'.mem = w.mem ∧ w'.trace = w.trace ∧ w'.faults = w.faults ∧ w'.next = w.next ∧
      w'.live = w.live ∧ (w'.hdr c).data = (w.hdr o).data ∧ (w'.hdr c).cap = (w.hdr o).cap ∧ (w'.hdr c).size = (w.hdr o).size ∧
      (w'.hdr o).size = 0 ∧ (w'.hdr o).data = (w.hdr o).inl ∧ (w'.hdr o).cap = (w.hdr o).N := by
  have hne' : o ≠ c := fun h => hne h.symm
  refine ⟨_, move_ctor_steals cfg c o hne w h, rfl, rfl, rfl, rfl, rfl, ?_⟩
  have hd := handOver_dst (ctorMovePre w c o) c o hne
  have hs := handOver_src (ctorMovePre w c o) c o hne
  have ho : (ctorMovePre w c o).hdr o = w.hdr o := by unfold ctorMovePre; simp [upd_other _ _ _ _ hne']
  rw [ho] at hd hs
  exact ⟨hd.1, hd.2.1, hd.2.2.1, hs.2.2.1, hs.1, hs.2.1⟩

/-- move_allocation_pointer: destroy and release the destination's old contents, then hand over -/
theorem moveAllocationPointer_run (cfg : Cfg) (c o : Nat) (w : World α) :
    moveAllocationPointer cfg c o w =
      (wipe cfg c >>= fun _ => setData c (w.hdr o).data (w.hdr o).cap (w.hdr o).size >>= fun _ => setDefault o) w := by
  unfold moveAllocationPointer resetData
  rw [bind_run, getV_run]
  simp only []
  rw [bind_assoc_run]

/-- what a stealing move assignment is: wipe, hand-over, allocator propagation -/
def stealAssign (cfg : Cfg) (c o : Nat) (w : World α) : M α Unit :=
  wipe cfg c >>= fun _ =>
  setData c (w.hdr o).data (w.hdr o).cap (w.hdr o).size >>= fun _ =>
  setDefault o >>= fun _ =>
  setAlloc c (maybeMove cfg.policy (w.hdr c).alloc (w.hdr o).alloc)

theorem moveAssignDefault_steals (cfg : Cfg) (c o : Nat) (w : World α) (h : StealAllowed (w.hdr c) (w.hdr o)) :
    moveAssignDefault cfg c o w = stealAssign cfg c o w w := by
  unfold moveAssignDefault stealAssign
  rw [getV_bind, getV_bind, steal_branch h (guard_moveAssignDefault1_0_eq ..) (guard_moveAssignDefault2_0_eq ..),
    bind_run, moveAllocationPointer_run, ← bind_run, bind_assoc_run]
  congr 1

/-- move assignment, stealing permitted and allocators interchangeable: exactly wipe + hand-over (+ propagation) -/
theorem move_assign_steals (cfg : Cfg) (c o : Nat) (w : World α) (h : StealAllowed (w.hdr c) (w.hdr o))
    (hi : InterchangeableMove cfg (w.hdr c) (w.hdr o)) :
    moveAssign cfg c o w = stealAssign cfg c o w w := by
  unfold moveAssign
  by_cases hm : allocationsAreMovable cfg.policy = true
  · rw [if_pos hm]; exact moveAssignDefault_steals cfg c o w h
  · rw [if_neg hm, getV_bind, getV_bind, guard_moveAssign1_0_eq, if_pos (beq_iff_eq.mpr (hi.resolve_left hm))]
    exact moveAssignDefault_steals cfg c o w h

/-- … and the transferred buffer is not touched: under the invariant, the memory of the source's block after the
    assignment is what it was, the destination's data () is the source's old data (), the source is empty and inlined,
    nothing was allocated, and the only traced element operations are the destructions of the destination's old
    elements (wipe) -/
theorem move_assign_steals_buffer (cfg : Cfg) (c o : Nat) (hne : c ≠ o) (w : World α)
    (hv : VecOK cfg w c) (hdist : (w.hdr o).data ≠ (w.hdr c).data)
    (h : StealAllowed (w.hdr c) (w.hdr o)) (hi : InterchangeableMove cfg (w.hdr c) (w.hdr o)) :
    ∃ w', moveAssign cfg c o w = .ok () w' ∧
      w'.mem (w.hdr o).data = w.mem (w.hdr o).data ∧ w'.next = w.next ∧
      (w'.hdr c).data = (w.hdr o).data ∧ (w'.hdr c).cap = (w.hdr o).cap ∧ (w'.hdr c).size = (w.hdr o).size ∧
      (w'.hdr o).size = 0 ∧ (w'.hdr o).data = (w.hdr o).inl ∧ (w'.hdr o).cap = (w.hdr o).N := by
  have hne' : o ≠ c := fun h => hne h.symm
  rw [move_assign_steals cfg c o w h hi]
  unfold stealAssign
  have hw := wipe_sat cfg c w hv
  rw [bind_run]
  cases hr : wipe cfg c w with
  | thrown e w1 => rw [hr] at hw; exact hw.elim
  | ok u w1 =>
    rw [hr] at hw
    have hw : Wiped w w1 c := hw
    simp only []
    refine ⟨_, rfl, ?_, ?_, ?_⟩
    · show w1.mem (w.hdr o).data = _
      exact hw.other _ hdist
    · show w1.next = _
      exact hw.next
    · simp [upd_other _ _ _ _ hne, upd_other _ _ _ _ hne', hw.hdr]

/-- two heap containers: swap_default is a pure exchange of (data, cap, size) plus the allocator rule -/
theorem swapDefault_steals (cfg : Cfg) (c o : Nat) (w : World α) (hc : (w.hdr c).N < (w.hdr c).cap) :
    swapDefault cfg c o w = (swapAllocation c o >>= fun _ => maybeSwapAlloc cfg c o) w := by
  unfold swapDefault
  rw [getV_bind, getV_bind, guard_swapDefault_0_eq, if_pos (decide_eq_true hc)]

/-- nothing but the two headers changed, and each container has the other's buffer, capacity and size -/
def Exchanged (w w' : World α) (c o : Nat) : Prop :=
  w'.mem = w.mem ∧ w'.trace = w.trace ∧ w'.faults = w.faults ∧ w'.next = w.next ∧ w'.live = w.live ∧
  (w'.hdr c).data = (w.hdr o).data ∧ (w'.hdr c).cap = (w.hdr o).cap ∧ (w'.hdr c).size = (w.hdr o).size ∧
  (w'.hdr o).data = (w.hdr c).data ∧ (w'.hdr o).cap = (w.hdr c).cap ∧ (w'.hdr o).size = (w.hdr c).size

theorem Exchanged.symm {w w' : World α} {c o : Nat} (h : Exchanged w w' c o) : Exchanged w w' o c :=
  let ⟨h1, h2, h3, h4, h5, a1, a2, a3, b1, b2, b3⟩ := h
  ⟨h1, h2, h3, h4, h5, b1, b2, b3, a1, a2, a3⟩

theorem exchange_run (cfg : Cfg) (c o : Nat) (hne : c ≠ o) (w : World α) :
    ∃ w', (swapAllocation c o >>= fun _ => maybeSwapAlloc cfg c o) w = .ok () w' ∧ Exchanged w w' c o := by
  refine ⟨_, rfl, rfl, rfl, rfl, rfl, rfl, ?_⟩
  simp [upd_other _ _ _ _ hne, upd_other _ _ _ _ hne.symm]

theorem swapDefault_exchanges (cfg : Cfg) (c o : Nat) (hne : c ≠ o) (w : World α) (hc : (w.hdr c).N < (w.hdr c).cap) :
    ∃ w', swapDefault cfg c o w = .ok () w' ∧ Exchanged w w' c o := by
  rw [swapDefault_steals cfg c o w hc]
  exact exchange_run cfg c o hne w

theorem ite_either {γ : Type} {P : γ → Prop} {p : Prop} [Decidable p] {a b : γ} (ha : P a) (hb : P b) :
    P (if p then a else b) := by
  split
  · exact ha
  · exact hb

/-- swap of two heap containers whose allocators may exchange buffers: O(1), no element touched, no allocation, no
    throw; each ends up with the other's data (), capacity and size -/
theorem swap_steals (cfg : Cfg) (c o : Nat) (hne : c ≠ o) (w : World α)
    (hc : (w.hdr c).N < (w.hdr c).cap) (ho : (w.hdr o).N < (w.hdr o).cap)
    (hi : InterchangeableSwap cfg (w.hdr c) (w.hdr o)) :
    ∃ w', swap cfg c o w = .ok () w' ∧
      w'.mem = w.mem ∧ w'.trace = w.trace ∧ w'.faults = w.faults ∧ w'.next = w.next ∧ w'.live = w.live ∧
      (w'.hdr c).data = (w.hdr o).data ∧ (w'.hdr c).cap = (w.hdr o).cap ∧ (w'.hdr c).size = (w.hdr o).size ∧
      (w'.hdr o).data = (w.hdr c).data ∧ (w'.hdr o).cap = (w.hdr c).cap ∧ (w'.hdr o).size = (w.hdr c).size := by
  have fwd := swapDefault_exchanges cfg c o hne w hc
  -- swap_default called with the arguments exchanged: the same exchange, read from the other side
  have bwd : ∃ w', swapDefault cfg o c w = .ok () w' ∧ Exchanged w w' c o :=
    (swapDefault_exchanges cfg o c hne.symm w ho).imp fun _ h => ⟨h.1, h.2.symm⟩
  unfold swap
  rw [getV_bind, getV_bind]
  -- whichever branch the capacities select, it is an exchange
  let P := fun m : M α Unit => ∃ w', m w = .ok () w' ∧ Exchanged w w' c o
  by_cases hs : allocationsAreSwappable cfg.policy = true
  · rw [if_pos hs]
    exact ite_either (P := P) (exchange_run cfg c o hne w) (ite_either (P := P) fwd bwd)
  · rw [if_neg hs, guard_swap2_1_eq, guard_swap2_2_eq, beq_iff_eq.mpr (hi.resolve_left hs), if_pos rfl, if_pos rfl]
    exact ite_either (P := P) fwd bwd

/-- after the hand-over the source satisfies the container invariant again (empty, inlined, inline buffer raw) -/
theorem steal_leaves_source_valid (cfg : Cfg) (c o : Nat) (hne : c ≠ o) (w : World α) (hvo : VecOK cfg w o)
    (hheap : (w.hdr o).N < (w.hdr o).cap) :
    VecOK cfg (handOver w c o) o := by
  have hnotinl : (w.hdr o).data ≠ (w.hdr o).inl := fun h => by have := hvo.inl_iff.mpr h; omega
  obtain ⟨hlen, hraw⟩ := hvo.idle hnotinl
  refine ⟨?_, ?_, ?_, ?_, ?_, ?_, ?_, ?_, ?_, ?_⟩ <;> rw [handOver_hdr_src w c o hne]
  · exact Nat.zero_le _
  · exact Nat.le_refl _
  · exact Nat.le_max_right _ _
  · exact ⟨fun _ => rfl, fun _ => rfl⟩
  · exact hvo.inl_lt
  · exact hlen
  · exact fun i hi => absurd hi (Nat.not_lt_zero i)
  · exact fun i _ hi => hraw i hi
  · exact fun h => absurd rfl h
  · exact fun h => absurd rfl h

/-- … and the destination is a valid container holding the source's buffer, capacity and elements -/
theorem steal_leaves_destination_valid (cfg : Cfg) (c o : Nat) (hne : c ≠ o) (w : World α) (hvc : VecOK cfg w c) (hvo : VecOK cfg w o)
    (h : StealAllowed (w.hdr c) (w.hdr o)) (hN : (w.hdr c).N ≤ cfg.maxSize ∨ (w.hdr o).cap ≤ cfg.maxSize)
    (hinlc : (w.hdr c).data = (w.hdr c).inl) (hempty : (w.hdr c).size = 0) (hinl_ne : (w.hdr o).data ≠ (w.hdr c).inl)
    (ha : (w.hdr o).alloc = (w.hdr c).alloc) :
    VecOK cfg (handOver w c o) c := by
  obtain ⟨h1, h2⟩ := h
  have hnotinl : (w.hdr o).data ≠ (w.hdr o).inl := fun h => by have := hvo.inl_iff.mpr h; omega
  have hcapN : (w.hdr c).cap = (w.hdr c).N := hvc.inl_iff.mpr hinlc
  refine ⟨?_, ?_, ?_, ?_, ?_, ?_, ?_, ?_, ?_, ?_⟩ <;> rw [handOver_hdr_dst w c o hne]
  · exact hvo.size_le
  · exact Nat.le_of_lt h2
  · show (w.hdr o).cap ≤ max cfg.maxSize (w.hdr c).N
    have := hvo.cap_max
    omega
  · exact ⟨fun h => absurd h (Nat.ne_of_gt h2), fun h => absurd h hinl_ne⟩
  · exact hvc.inl_lt
  · exact hvo.len
  · exact hvo.objs
  · exact hvo.raws
  · exact fun _ => ⟨(hvo.heap hnotinl).1, (hvo.heap hnotinl).2.trans ha⟩
  · refine fun _ => ⟨?_, fun i hi => ?_⟩
    · show (w.mem (w.hdr c).inl).length = (w.hdr c).N
      rw [← hinlc, hvc.len, hcapN]
    · have hi : i < (w.hdr c).N := hi
      exact hinlc ▸ hvc.raws i (by omega) (by omega)

/-! ### non-vacuity: a world where container 1 (N = 2) holds [1, 2, 3] in heap block 5 (capacity 4) and container 0
    (N = 2) is a fresh object; the hypotheses of the steal theorems hold there and the result is as described -/
def w2 : World Int :=
  { mem := fun b => if b = 5 then [.obj (.val 1), .obj (.val 2), .obj (.val 3), .raw] else if b = 0 ∨ b = 1 then [.raw, .raw] else [],
    hdr := fun c => if c = 1 then { N := 2, inl := 1, cap := 4, size := 3, data := 5, alloc := 7 }
                    else { N := 2, inl := 0, cap := 2, size := 0, data := 0, alloc := 7 },
    owner := fun _ => 7, live := [5], next := 7, ntmp := 6, faults := [0, 0, 0], trace := [], ub := [] }

example : StealAllowed (w2.hdr 0) (w2.hdr 1) := by decide
example : InterchangeableMove Ex.cfgT (w2.hdr 0) (w2.hdr 1) := Or.inr rfl
/-- the fault list [0, 0, 0] would make the very next element operation or allocation throw: none happens -/
example : ∃ w', ctorMove Ex.cfgT 0 1 w2 = .ok () w' ∧ (w'.hdr 0).data = 5 ∧ (w'.hdr 0).size = 3 ∧ (w'.hdr 1).size = 0 ∧
    (w'.hdr 1).data = 1 ∧ w'.faults = [0, 0, 0] ∧ w'.trace = [] :=
  ⟨_, move_ctor_steals Ex.cfgT 0 1 (by decide) w2 (by decide), rfl, rfl, rfl, rfl, rfl, rfl⟩

end SvModel.C09
