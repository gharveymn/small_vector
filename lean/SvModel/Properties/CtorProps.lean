/-
Property corollaries for construction and destruction.
-/
import SvModel.Properties.Core
import SvModel.Proofs.Ctor
import SvModel.Proofs.CopyAssign
import SvModel.Api

namespace SvModel
open Gen
variable {α : Type}

theorem ctorSrcs_ext (cfg : Cfg) (w : World α) (c : Nat) (vs : List (Src α)) (hext : External vs) : CtorSrcs cfg w c vs :=
  ⟨hext.nonmoving, hext.live w, fun s hs b i hl' => by rw [hext s hs] at hl'; cases hl'⟩

/-- the elements of a valid container `o` whose buffer is not `c`'s in-object buffer are admissible sources for constructing `c` -/
theorem ctorSrcs_copy {cfg : Cfg} {w : World α} {c o : Nat} (hl : Ledger w) (hvo : VecOK cfg w o)
    (hsep : (w.hdr o).data ≠ (w.hdr c).inl) : CtorSrcs cfg w c (srcsCopy (w.hdr o).data 0 (w.hdr o).size) := by
  refine ⟨fun s hs => ?_, fun s hs b i hl' => ?_, fun s hs b i hl' => ?_⟩
  all_goals obtain ⟨k, hk, rfl⟩ := mem_srcsCopy hs
  · rfl
  all_goals
    injection hl' with hl'
    injection hl' with h1 h2
    subst h1 h2
  · rw [Nat.zero_add]; exact hvo.objs k hk
  · exact ⟨hsep, hvo.data_lt_next hl⟩

namespace C01
/-- small_vector (n, x) / small_vector (first, last): the new container holds exactly the given values -/
theorem ctor_fill_refines (cfg : Cfg) (c a : Nat) (vs : List α) (w w' : World α)
    (hu : Unborn w c) (hl : Ledger w) (hN : (w.hdr c).N ≤ cfg.maxSize)
    (hr : ctorFill cfg c a true (vs.map Src.ext) w = .ok () w') :
    Holds w' c (vs.map Val.val) ∧ VecOK cfg w' c := by
  have h := sat_of_ok (ctorFill_sat cfg c a true _ w hu hl (fun h => by cases h) (ctorSrcs_ext cfg w c _ (external_ext vs))) hr
  exact ⟨map_srcVal_ext w vs ▸ h.2.2.1, h.1⟩
end C01

namespace C03
/-- a constructor that throws leaves no object behind: the storage is raw again (every element it had constructed was
    destroyed exactly once) and no block is owned -/
theorem ctor_throw_no_object (cfg : Cfg) (c a : Nat) (checked : Bool) (srcs : List (Src α)) (w w' : World α) (e : Exc)
    (hu : Unborn w c) (hl : Ledger w) (hN : (w.hdr c).N ≤ cfg.maxSize)
    (hk : checked = false → srcs.length ≤ cfg.maxSize) (hs : CtorSrcs cfg w c srcs)
    (hr : ctorFill cfg c a checked srcs w = .thrown e w') : Unborn w' c ∧ w'.live = w.live :=
  let h := sat_of_thrown (ctorFill_sat cfg c a checked srcs w hu hl hk hs) hr
  ⟨h.1, h.2.2.1⟩

/-- the destructor destroys exactly the live elements and leaves raw storage -/
theorem dtor_leaves_raw (cfg : Cfg) (c : Nat) (w w' : World α) (hp : Pre cfg w c) (hr : dtor cfg c w = .ok () w') :
    Unborn w' c ∧ w'.ub = w.ub :=
  let h := sat_of_ok (hp.use (dtor_sat cfg c w)) hr
  ⟨h.1, h.2.2.1⟩
end C03

namespace C04
/-- the ledger after a failed constructor is the ledger before it: nothing leaked -/
theorem ctor_throw_no_leak (cfg : Cfg) (c a : Nat) (checked : Bool) (srcs : List (Src α)) (w w' : World α) (e : Exc)
    (hu : Unborn w c) (hl : Ledger w) (hN : (w.hdr c).N ≤ cfg.maxSize)
    (hk : checked = false → srcs.length ≤ cfg.maxSize) (hs : CtorSrcs cfg w c srcs)
    (hr : ctorFill cfg c a checked srcs w = .thrown e w') : Ledger w' ∧ w'.live = w.live :=
  let h := sat_of_thrown (ctorFill_sat cfg c a checked srcs w hu hl hk hs) hr
  ⟨h.2.1, h.2.2.1⟩

/-- the destructor returns the heap block (if any) and nothing else -/
theorem dtor_releases (cfg : Cfg) (c : Nat) (w w' : World α) (hp : Pre cfg w c) (hr : dtor cfg c w = .ok () w') :
    Ledger w' ∧ w'.live = (if (w.hdr c).N < (w.hdr c).cap then w.live.erase (w.hdr c).data else w.live) :=
  let h := sat_of_ok (hp.use (dtor_sat cfg c w)) hr
  ⟨h.2.1, h.2.2.2.2.1⟩

/-- construct, then destroy: the set of live blocks is what it was -/
theorem ctor_dtor_balanced (cfg : Cfg) (c a : Nat) (checked : Bool) (srcs : List (Src α)) (w w1 w2 : World α)
    (hu : Unborn w c) (hl : Ledger w) (hN : (w.hdr c).N ≤ cfg.maxSize)
    (hk : checked = false → srcs.length ≤ cfg.maxSize) (hs : CtorSrcs cfg w c srcs)
    (h1 : ctorFill cfg c a checked srcs w = .ok () w1) (h2 : dtor cfg c w1 = .ok () w2) : w2.live = w.live :=
  (SvModel.ctor_dtor_balanced cfg c a checked srcs w w1 w2 hu hl hN hk hs h1 h2).1
end C04

namespace C01
/-- copy construction (from a container of any inline capacity): the new container holds the source's values, the
    source is untouched -/
theorem ctor_copy_refines (cfg : Cfg) (c o a : Nat) (w w' : World α) (ys : List (Val α))
    (hu : Unborn w c) (hl : Ledger w) (hN : (w.hdr c).N ≤ cfg.maxSize)
    (hvo : VecOK cfg w o) (hNo : (w.hdr o).N ≤ cfg.maxSize) (hy : Holds w o ys)
    (hsep : (w.hdr o).data ≠ (w.hdr c).inl)
    (hr : ctorCopy cfg c o a w = .ok () w') :
    Holds w' c ys ∧ VecOK cfg w' c ∧ Ledger w' ∧ (w'.hdr c).alloc = a := by
  unfold ctorCopy at hr
  rw [bind_run, getV_run] at hr
  simp only [] at hr
  have hsz : (w.hdr o).size ≤ cfg.maxSize := Nat.le_trans hvo.size_le (hvo.cap_le_max hNo)
  have h := sat_of_ok (ctorFill_sat cfg c a ctorCopyChecked _ w hu hl (fun _ => by rw [srcsCopy_length]; exact hsz)
    (ctorSrcs_copy hl hvo hsep)) hr
  exact ⟨srcsCopy_vals hy ▸ h.2.2.1, h.1, h.2.1, h.2.2.2.1⟩
end C01

/-! non-vacuity: container 0 of the initial world (N = 2) is `Unborn`; constructing it from [1, 2, 3] with the second
    element's copy constructor throwing leaves it unborn with no live block -/
example : (match ctorFill Ex.cfgT 0 7 true [.ext 1, .ext 2, .ext (3 : Int)] { initWorld 2 3 with faults := [2] } with
           | .thrown e w' => decide (e = .elem) && w'.live == [] && w'.mem 0 == [.raw, .raw] && w'.mem 5 == []
           | .ok _ _ => false) = true := by decide +kernel

end SvModel
