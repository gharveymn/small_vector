/-
C04 / C10: "an operation whose resulting contents fit in the capacity the container already has never calls allocate" — as a
statement about the event trace, for EVERY world and fault list (no invariant): under the arithmetic condition that the
result fits, the call adds NO allocation event, whether it returns or throws.  The condition is matched against the
GENERATED decision guards of each function (`rfl`-equations): if the header's condition changes, these theorems are
re-checked against the new guard.
-/
import SvModel.Properties.C10Allocs

namespace SvModel.C04
open SvModel Gen SvModel.C10
variable {α : Type}

/-- no allocation event added by this run -/
def Quiet0 {β : Type} (m : M α β) (w : World α) : Prop := nAlloc (m w).world.trace ≤ nAlloc w.trace

theorem Quiet0.of_ab {β : Type} {m : M α β} (h : AB 0 m) (w : World α) : Quiet0 m w := h w
theorem Quiet0.allocs {β : Type} {m : M α β} {w : World α} (h : Quiet0 m w) : allocsAdded m w = 0 := by
  unfold allocsAdded; unfold Quiet0 at h; omega

/-- push_back / emplace_back with spare capacity -/
theorem push_back_fits (cfg : Cfg) (c : Nat) (s : Src α) (w : World α) (hfit : (w.hdr c).size < (w.hdr c).cap) :
    Quiet0 (appendElement cfg c s) w := by
  unfold Quiet0 appendElement
  rw [getV_bind, guard_appendElement_0_eq, if_pos (decide_eq_true hfit)]
  exact (Counts.isAlloc.emplaceIntoCurrentEnd cfg c s).ab w

/-- append (n, x) / insert (end (), n, x) that fits -/
theorem append_copies_fits (cfg : Cfg) (c n : Nat) (s : Src α) (w : World α) (hfit : (w.hdr c).size + n ≤ (w.hdr c).cap) :
    Quiet0 (appendCopies cfg c n s) w := by
  unfold Quiet0 appendCopies
  rw [getV_bind, guard_appendCopies_0_eq, if_neg (by rw [decide_eq_true_eq]; omega)]
  exact (Counts.isAlloc.appendInPlace _ _ _ _ _ _ _).ab w

/-- append (first, last) (multi-pass) that fits -/
theorem append_range_fits (cfg : Cfg) (c : Nat) (strong : Bool) (srcs : List (Src α)) (w : World α)
    (hfit : (w.hdr c).size + srcs.length ≤ (w.hdr c).cap) : Quiet0 (appendRangeFwd cfg c strong srcs) w := by
  unfold Quiet0 appendRangeFwd
  rw [getV_bind, guard_appendRange2_0_eq, if_neg (by rw [decide_eq_true_eq]; omega)]
  exact (Counts.isAlloc.appendInPlace _ _ _ _ _ _ _).ab w

/-- insert (pos, x) / emplace (pos, args) with spare capacity -/
theorem insert_fits (cfg : Cfg) (c pos : Nat) (s : Src α) (rv : Bool) (w : World α) (hfit : (w.hdr c).size < (w.hdr c).cap) :
    Quiet0 (emplaceAt cfg c pos s rv) w := by
  unfold Quiet0 emplaceAt
  rw [getV_bind, guard_emplaceAt_0_eq, if_pos (decide_eq_true hfit)]
  exact (Adds.ite (Counts.isAlloc.emplaceIntoCurrentRv _ _ _ _) (Counts.isAlloc.emplaceIntoCurrent _ _ _ _)).ab w

/-- insert (pos, n, x) that fits — anywhere, incl. end () -/
theorem insert_n_fits (cfg : Cfg) (c pos n : Nat) (s : Src α) (w : World α) (hfit : (w.hdr c).size + n ≤ (w.hdr c).cap) :
    Quiet0 (insertCopies cfg c pos n s) w := by
  unfold Quiet0 insertCopies
  rw [getV_bind]
  simp only []
  rw [guard_insertCopies_0_eq, guard_insertCopies_1_eq, guard_insertCopies_2_eq, guard_insertCopies_3_eq]
  by_cases h0 : 0 = n
  · rw [if_pos (decide_eq_true h0)]; exact Nat.le_refl _
  · rw [if_neg (by simpa using h0)]
    by_cases h1 : pos = (w.hdr c).size
    · rw [if_pos (decide_eq_true h1)]
      by_cases h2 : 1 = n
      · rw [if_pos (decide_eq_true h2)]; exact push_back_fits cfg c s w (by omega)
      · rw [if_neg (by simpa using h2)]; exact append_copies_fits cfg c n s w hfit
    · rw [if_neg (by simpa using h1), if_neg (by rw [decide_eq_true_eq]; omega)]
      exact (Counts.isAlloc.insertCopiesInPlace _ _ _ _ _ _ _ _).ab w

/-- insert (pos, first, last) (multi-pass) that fits -/
theorem insert_range_fits (cfg : Cfg) (c pos : Nat) (srcs : List (Src α)) (w : World α)
    (hfit : (w.hdr c).size + srcs.length ≤ (w.hdr c).cap) : Quiet0 (insertRangeFwd cfg c pos srcs) w := by
  unfold Quiet0 insertRangeFwd
  rw [getV_bind]
  simp only []
  split
  · -- pos ≠ end (): insert_range_helper
    unfold insertRangeHelper
    rw [getV_bind]
    simp only []
    rw [guard_insertRangeHelper_0_eq, if_neg (by rw [decide_eq_true_eq]; omega)]
    exact (Counts.isAlloc.insertRangeInPlace _ _ _ _ _ _ _).ab w
  · rw [guard_insertRange1_1_eq]
    by_cases h1 : srcs.length = 1
    · rw [if_pos (decide_eq_true h1)]
      cases srcs with
      | nil => exact Nat.le_refl _
      | cons s rest => exact push_back_fits cfg c s w (by simp at hfit; omega)
    · rw [if_neg (by simpa using h1)]; exact append_range_fits cfg c false srcs w hfit

/-- assign (n, x) within the capacity -/
theorem assign_n_fits (cfg : Cfg) (c n : Nat) (s : Src α) (w : World α) (hfit : n ≤ (w.hdr c).cap) :
    Quiet0 (assignWithCopies cfg c n s) w := by
  unfold Quiet0 assignWithCopies
  rw [getV_bind]
  simp only []
  rw [guard_assignWithCopies_0_eq, if_neg (by rw [decide_eq_true_eq]; omega)]
  exact (Counts.isAlloc.assignInPlace _ _ _ _ _ _ _ _ _).ab w

/-- assign (first, last) (multi-pass) within the capacity -/
theorem assign_range_fits (cfg : Cfg) (c : Nat) (srcs : List (Src α)) (w : World α) (hfit : srcs.length ≤ (w.hdr c).cap) :
    Quiet0 (assignWithRangeFwd cfg c srcs) w := by
  unfold Quiet0 assignWithRangeFwd
  rw [getV_bind]
  simp only []
  rw [guard_assignWithRange1_0_eq, if_neg (by rw [decide_eq_true_eq]; omega)]
  exact (Counts.isAlloc.assignInPlace _ _ _ _ _ _ _ _ _).ab w

/-- reserve (n) with n ≤ capacity () does nothing at all -/
theorem reserve_fits (cfg : Cfg) (c n : Nat) (w : World α) (hfit : n ≤ (w.hdr c).cap) : Quiet0 (requestCapacity cfg c n) w := by
  unfold Quiet0 requestCapacity
  rw [getV_bind, guard_requestCapacity_0_eq, if_pos (decide_eq_true hfit)]
  exact Nat.le_refl _

/-- C04's clause, all growing calls with a known element count: if the result fits in the capacity, no allocation -/
theorem fits_no_allocation (cfg : Cfg) (c : Nat) (w : World α) :
    (∀ s, (w.hdr c).size < (w.hdr c).cap → allocsAdded (appendElement cfg c s) w = 0) ∧
    (∀ pos s rv, (w.hdr c).size < (w.hdr c).cap → allocsAdded (emplaceAt cfg c pos s rv) w = 0) ∧
    (∀ pos n s, (w.hdr c).size + n ≤ (w.hdr c).cap → allocsAdded (insertCopies cfg c pos n s) w = 0) ∧
    (∀ pos srcs, (w.hdr c).size + srcs.length ≤ (w.hdr c).cap → allocsAdded (insertRangeFwd cfg c pos srcs) w = 0) ∧
    (∀ strong srcs, (w.hdr c).size + srcs.length ≤ (w.hdr c).cap → allocsAdded (appendRangeFwd cfg c strong srcs) w = 0) ∧
    (∀ n s, (w.hdr c).size + n ≤ (w.hdr c).cap → allocsAdded (appendCopies cfg c n s) w = 0) ∧
    (∀ n s, n ≤ (w.hdr c).cap → allocsAdded (assignWithCopies cfg c n s) w = 0) ∧
    (∀ srcs, srcs.length ≤ (w.hdr c).cap → allocsAdded (assignWithRangeFwd cfg c srcs) w = 0) ∧
    (∀ n, n ≤ (w.hdr c).cap → allocsAdded (requestCapacity cfg c n) w = 0) :=
  ⟨fun s h => (push_back_fits cfg c s w h).allocs, fun pos s rv h => (insert_fits cfg c pos s rv w h).allocs,
   fun pos n s h => (insert_n_fits cfg c pos n s w h).allocs, fun pos srcs h => (insert_range_fits cfg c pos srcs w h).allocs,
   fun strong srcs h => (append_range_fits cfg c strong srcs w h).allocs, fun n s h => (append_copies_fits cfg c n s w h).allocs,
   fun n s h => (assign_n_fits cfg c n s w h).allocs, fun srcs h => (assign_range_fits cfg c srcs w h).allocs,
   fun n h => (reserve_fits cfg c n w h).allocs⟩

end SvModel.C04
