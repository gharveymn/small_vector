/-
Property corollaries for assign (n, x) and assign (first, last) over a multi-pass range of outside values.
-/
import SvModel.Properties.Core
import SvModel.Proofs.Assign

namespace SvModel
open Gen
variable {α : Type}

namespace C01
/-- assign (n, x): the container holds n copies of x, whatever it held before -/
theorem assign_n_refines (cfg : Cfg) (c n : Nat) (a : α) (w w' : World α) (hp : Pre cfg w c)
    (hr : assignWithCopies cfg c n (.ext a) w = .ok () w') : Holds w' c (L0.assignN n (.val a)) :=
  (sat_of_ok (hp.use (assignWithCopies_sat cfg c n a w)) hr).holds

/-- assign (first, last): the container holds the range's values -/
theorem assign_range_refines (cfg : Cfg) (c : Nat) (vs : List α) (w w' : World α) (hp : Pre cfg w c)
    (hr : assignWithRangeFwd cfg c (vs.map Src.ext) w = .ok () w') : Holds w' c (L0.assignRange (vs.map Val.val)) := by
  have h := (sat_of_ok (hp.use (assignWithRangeFwd_sat cfg c _ w) (external_ext vs)) hr).holds
  rwa [map_srcVal_ext] at h
end C01

namespace C06
/-- a throw out of assign: valid container, same buffer and capacity, nothing leaked; a length_error changes nothing at all -/
theorem assign_n_basic (cfg : Cfg) (c n : Nat) (a : α) (w w' : World α) (e : Exc) (hp : Pre cfg w c)
    (hr : assignWithCopies cfg c n (.ext a) w = .thrown e w') :
    Basic cfg w w' c ∧ (w'.hdr c).data = (w.hdr c).data ∧ (w'.hdr c).cap = (w.hdr c).cap ∧ w'.live = w.live ∧ (e = .length → w' = w) := by
  have h := sat_of_thrown (hp.use (assignWithCopies_sat cfg c n a w)) hr
  exact ⟨h.1.1, h.1.2.1, h.1.2.2.1, h.1.2.2.2, h.2.1⟩

theorem assign_range_basic (cfg : Cfg) (c : Nat) (vs : List α) (w w' : World α) (e : Exc) (hp : Pre cfg w c)
    (hr : assignWithRangeFwd cfg c (vs.map Src.ext) w = .thrown e w') :
    Basic cfg w w' c ∧ (w'.hdr c).data = (w.hdr c).data ∧ (w'.hdr c).cap = (w.hdr c).cap ∧ w'.live = w.live :=
  (sat_of_thrown (hp.use (assignWithRangeFwd_sat cfg c _ w) (external_ext vs)) hr).1
end C06

namespace C05
/-- a reallocating assign that throws (allocator, element constructor) leaves the world observably unchanged -/
theorem assign_n_realloc_strong (cfg : Cfg) (c n : Nat) (a : α) (w w' : World α) (e : Exc) (hp : Pre cfg w c)
    (hgrow : (w.hdr c).cap < n) (hr : assignWithCopies cfg c n (.ext a) w = .thrown e w') : Strong w w' :=
  (sat_of_thrown (hp.use (assignWithCopies_sat cfg c n a w)) hr).2.2 hgrow
end C05

namespace C10
/-- assign of at most capacity () elements keeps the buffer: no allocation, same data (), same capacity () -/
theorem assign_n_in_place (cfg : Cfg) (c n : Nat) (a : α) (w w' : World α) (hp : Pre cfg w c) (hfit : n ≤ (w.hdr c).cap)
    (hr : assignWithCopies cfg c n (.ext a) w = .ok () w') :
    (w'.hdr c).data = (w.hdr c).data ∧ (w'.hdr c).cap = (w.hdr c).cap ∧ w'.live = w.live ∧ w'.next = w.next :=
  (sat_of_ok (hp.use (assignWithCopies_sat cfg c n a w)) hr).inplace (by simpa using hfit)

theorem assign_n_grows (cfg : Cfg) (c n : Nat) (a : α) (w w' : World α) (hp : Pre cfg w c) (hgrow : (w.hdr c).cap < n)
    (hr : assignWithCopies cfg c n (.ext a) w = .ok () w') :
    (w'.hdr c).data = w.next ∧ (w'.hdr c).cap = newCapacity cfg.maxSize (w.hdr c).cap n := by
  have := (sat_of_ok (hp.use (assignWithCopies_sat cfg c n a w)) hr).grown (by simpa using hgrow)
  simpa using this
end C10

end SvModel
