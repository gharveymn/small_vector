/-
C14 — Growth is geometric: amortised O(1) push_back, logarithmic allocation count.

All theorems are about `SvModel.Gen.newCapacity`, which tools/translate.py regenerates from
`unchecked_calculate_new_capacity` (small_vector.hpp) on every run (T-tie).  That every growing path of the
L2 model obtains its capacity from this function is `uses_growth_*` in Properties/C14Uses.lean (L2) and is
compared with the real allocate() arguments by the differential harness.
-/
import SvModel.Gen.Growth

namespace SvModel.C14
open SvModel.Gen

/-- the generated function, read as arithmetic: saturate when doubling would pass max_size, else max (2*cap) req -/
theorem newCapacity_eq (m cap req : Nat) :
    newCapacity m cap req = if m - cap ≤ cap then m else max (2 * cap) req := by
  unfold newCapacity
  simp only [decide_eq_true_eq]
  split
  · rfl
  · split <;> omega

/-- the new capacity is at least the required size and never exceeds max_size -/
theorem grow_ge_req (m cap req : Nat) (h1 : cap < req) (h2 : req ≤ m) :
    req ≤ newCapacity m cap req ∧ newCapacity m cap req ≤ m := by
  rw [newCapacity_eq]
  split <;> omega

/-- in fact the code doubles (what the amortised bound below uses) -/
theorem grow_ge_double_or_max (m cap req : Nat) :
    newCapacity m cap req = m ∨ 2 * cap ≤ newCapacity m cap req := by
  rw [newCapacity_eq]
  split <;> omega

/-- at least 1.5x the old capacity, saturating at max_size (the property's clause) -/
theorem grow_ge_1_5x (m cap req : Nat) :
    newCapacity m cap req = m ∨ 3 * cap ≤ 2 * newCapacity m cap req :=
  (grow_ge_double_or_max m cap req).imp_right (fun h => by omega)

theorem grow_eq_max (m cap req : Nat) (h : ¬ (m - cap ≤ cap)) :
    newCapacity m cap req = max (2 * cap) req := by
  rw [newCapacity_eq, if_neg h]

structure St where
  (cap size allocs relocs : Nat)

/-- L1 view of push_back (append_element): in place iff size < capacity, else reallocate to
    `newCapacity` and relocate `size` elements -/
def push (m : Nat) (s : St) : St :=
  if s.size < s.cap then { s with size := s.size + 1 }
  else { cap := newCapacity m s.cap (s.size + 1), size := s.size + 1,
         allocs := s.allocs + 1, relocs := s.relocs + s.size }

def pushN (m : Nat) : Nat → St → St
  | 0, s => s
  | n+1, s => pushN m n (push m s)

/-- invariant along a run that starts at capacity c0 (the inline capacity, possibly 0) with zero counters -/
structure Inv (c0 : Nat) (s : St) : Prop where
  sz   : s.size ≤ s.cap
  cap  : s.cap ≤ max c0 (2 * s.size)
  pot  : 2 ^ s.allocs * max c0 1 ≤ max (2 * s.cap) (max c0 1)
  c0le : c0 ≤ s.cap

theorem push_inv (m c0 : Nat) (s : St) (h : Inv c0 s) (hm : 2 * (s.size + 1) < m) : Inv c0 (push m s) := by
  unfold push
  split
  · refine ⟨?_, ?_, h.pot, h.c0le⟩
    · show s.size + 1 ≤ s.cap
      omega
    · show s.cap ≤ max c0 (2 * (s.size + 1))
      have := h.cap
      omega
  · have hfull : s.size = s.cap := by have := h.sz; omega
    have hnc := grow_eq_max m s.cap (s.size + 1) (by omega)
    have hsz : s.size + 1 ≤ newCapacity m s.cap (s.size + 1) := by omega
    have hcap : newCapacity m s.cap (s.size + 1) ≤ 2 * (s.size + 1) := by omega
    -- the new capacity dominates every term of the old potential bound
    have h2c : 2 * s.cap ≤ newCapacity m s.cap (s.size + 1) := hnc ▸ Nat.le_max_left _ _
    have hdom : max (2 * s.cap) (max c0 1) ≤ newCapacity m s.cap (s.size + 1) :=
      Nat.max_le.mpr ⟨h2c, Nat.max_le.mpr ⟨by have := h.c0le; omega, by omega⟩⟩
    refine ⟨hsz, Nat.le_trans hcap (Nat.le_max_right _ _), ?_,
      Nat.le_trans (Nat.le_max_left c0 1) (Nat.le_trans (Nat.le_max_right _ _) hdom)⟩
    show 2 ^ (s.allocs + 1) * max c0 1 ≤ max (2 * newCapacity m s.cap (s.size + 1)) (max c0 1)
    -- one more allocation doubles the left side
    rw [Nat.pow_succ, Nat.mul_right_comm, Nat.mul_comm _ 2]
    exact Nat.le_trans (Nat.mul_le_mul_left 2 (Nat.le_trans h.pot hdom)) (Nat.le_max_left _ _)

theorem push_size (m : Nat) (s : St) : (push m s).size = s.size + 1 := by
  unfold push; split <;> rfl

theorem pushN_inv (m c0 : Nat) : ∀ (n : Nat) (s : St), Inv c0 s → 2 * (s.size + n) < m →
    Inv c0 (pushN m n s) ∧ (pushN m n s).size = s.size + n
  | 0, s, h, _ => ⟨h, rfl⟩
  | n+1, s, h, hm => by
    have hp := push_inv m c0 s h (by omega)
    have hsz := push_size m s
    have := pushN_inv m c0 n (push m s) hp (by rw [hsz]; omega)
    refine ⟨this.1, ?_⟩
    show (pushN m n (push m s)).size = _
    rw [this.2, hsz]
    omega

/-- relocation potential: `relocs + c0 ≤ cap` (each reallocation relocates size = cap elements and at least doubles) -/
theorem push_relInv (m c0 : Nat) (s : St) (h : Inv c0 s) (hr : s.relocs + c0 ≤ s.cap) (hm : 2 * (s.size + 1) < m) :
    (push m s).relocs + c0 ≤ (push m s).cap := by
  unfold push
  by_cases hlt : s.size < s.cap
  · simp only [hlt, if_true]; exact hr
  · simp only [hlt, if_false]
    have := h.sz
    have hnc := grow_eq_max m s.cap (s.size + 1) (by omega)
    show s.relocs + s.size + c0 ≤ newCapacity m s.cap (s.size + 1)
    omega

theorem pushN_relocs (m c0 : Nat) : ∀ (n : Nat) (s : St), Inv c0 s → s.relocs + c0 ≤ s.cap → 2 * (s.size + n) < m →
    (pushN m n s).relocs + c0 ≤ (pushN m n s).cap
  | 0, _, _, hr, _ => hr
  | n+1, s, h, hr, hm => by
    have hp := push_inv m c0 s h (by omega)
    have hr' := push_relInv m c0 s h hr (by omega)
    have hsz := push_size m s
    exact pushN_relocs m c0 n (push m s) hp hr' (by rw [hsz]; omega)

def start (c0 : Nat) : St := { cap := c0, size := 0, allocs := 0, relocs := 0 }

/-- a run may start from any state with zero counters whose capacity is the reference capacity `c0` -/
theorem inv_start (c0 size : Nat) (h : size ≤ c0) : Inv c0 { cap := c0, size := size, allocs := 0, relocs := 0 } := by
  refine ⟨h, Nat.le_max_left _ _, ?_, Nat.le_refl _⟩
  show 2 ^ 0 * max c0 1 ≤ max (2 * c0) (max c0 1)
  omega

theorem pushN_start (m c0 n : Nat) (hm : 2 * n < m) :
    Inv c0 (pushN m n (start c0)) ∧ (pushN m n (start c0)).size = n := by
  have h := pushN_inv m c0 n (start c0) (inv_start c0 0 (Nat.zero_le _)) (by show 2 * (0 + n) < m; omega)
  rwa [show (start c0).size + n = n from Nat.zero_add n] at h

/-- C14 (allocations): n push_backs into an empty container of inline capacity c0 perform `allocs` allocations with
    2^allocs * max c0 1 ≤ max (2 * max c0 (2n)) (max c0 1), i.e. allocs ≤ log2 (4n / max c0 1) + O(1) — for EVERY n, c0 (incl. 0) -/
theorem push_allocs_log (m c0 n : Nat) (hm : 2 * n < m) :
    2 ^ (pushN m n (start c0)).allocs * max c0 1 ≤ max (2 * max c0 (2 * n)) (max c0 1) := by
  obtain ⟨hI, hsz⟩ := pushN_start m c0 n hm
  have hcap := hI.cap
  rw [hsz] at hcap
  exact Nat.le_trans hI.pot (by omega)

/-- C14 (relocations): the total number of element relocations during n push_backs is < final capacity ≤ max c0 (2n): O(n) -/
theorem push_relocs_linear (m c0 n : Nat) (hm : 2 * n < m) :
    (pushN m n (start c0)).relocs + c0 ≤ max c0 (2 * n) := by
  obtain ⟨hI, hsz⟩ := pushN_start m c0 n hm
  have hr := pushN_relocs m c0 n (start c0) (inv_start c0 0 (Nat.zero_le _)) (Nat.le_of_eq (Nat.zero_add c0))
    (by show 2 * (0 + n) < m; omega)
  have hcap := hI.cap
  rw [hsz] at hcap
  omega

/-- non-vacuity: a concrete run (inline capacity 0, 20 pushes, 64-bit max_size) satisfies the hypotheses and the bound is tight-ish -/
example : (pushN (2^62) 20 (start 0)).allocs = 6 ∧ (pushN (2^62) 20 (start 0)).cap = 32 ∧
          (pushN (2^62) 20 (start 0)).relocs = 31 := by decide
example : (pushN (2^62) 12 (start 5)).allocs = 2 ∧ (pushN (2^62) 12 (start 5)).cap = 20 := by decide
example : newCapacity 127 100 101 = 127 ∧ newCapacity 127 3 4 = 6 ∧ newCapacity 127 0 1 = 1 ∧ newCapacity 127 2 9 = 9 := by decide

end SvModel.C14
