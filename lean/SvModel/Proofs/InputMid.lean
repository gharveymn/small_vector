/-
C15 for the MID-SEQUENCE insert of a single-pass range (hpp:4084-4094): the range is consumed into a temporary container
(`append_range` element by element), whose elements are then moved in by `insert_range_helper`; the temporary is
destroyed on every exit.

The iterator protocol is a property of the event trace alone, so it is proved for EVERY world (no invariant needed):
the consuming loop adds exactly the events `deref p, incr p, deref p+1, …` — all of them when it returns, a prefix ending
in the dereference whose element failed when it throws — and no other part of the operation (temporary container,
reallocation, shifting, roll-back, destruction of the temporary) touches the iterator at all.
-/
import SvModel.Proofs.InputRange

namespace SvModel
open Gen
variable {α : Type}

/-- This is the trace clause of `appendRangeInputLoop_sat` without that theorem's hypotheses: it holds in EVERY world
    (the temporary container of the mid-sequence insert satisfies no invariant the other theorem could use) -/
theorem appendRangeInputLoop_iter (cfg : Cfg) (c : Nat) (strong : Bool) (orig sid : Nat) :
    ∀ (xs : List α) (p : Nat) (w : World α),
      (appendRangeInputLoop cfg c strong orig sid p xs w).sat
        (fun _ w' => iterEvs w'.trace = iterEvs w.trace ++ streamEvs sid p xs.length)
        (fun _ w' => ∃ k, k < xs.length ∧ iterEvs w'.trace = iterEvs w.trace ++ streamEvs sid p k ++ [.deref sid (p + k)]) := by
  intro xs
  induction xs with
  | nil =>
    intro p w
    show iterEvs w.trace = iterEvs w.trace ++ []
    rw [List.append_nil]
  | cons x xs ih =>
    intro p w
    unfold appendRangeInputLoop
    refine sat_bind (emit_sat (.deref sid p) w) (fun _ w1 ⟨_, ht1⟩ => ?_) (fun _ _ h => h.elim)
    have ht1 : iterEvs w1.trace = iterEvs w.trace ++ [.deref sid p] := by rw [ht1, iterEvs_append]; rfl
    refine sat_bind (NoIter.sat (NoIter.ite (NoIter.tryCatch (NoIter.appendElement _ _ _) (fun e =>
        NoIter.bind (NoIter.getV _) (fun v => NoIter.bind (NoIter.eraseRange _ _ _ _) (fun _ => NoIter.throwE e))))
        (NoIter.appendElement _ _ _)) w1)
      (fun _ w2 h2 => ?_) (fun _ w2 h2 => ⟨0, by simp, by rw [h2, ht1]; exact streamEvs_first_deref _ sid p⟩)
    refine sat_bind (emit_sat (.incr sid p) w2) (fun _ w3 ⟨_, ht3⟩ => ?_) (fun _ _ h => h.elim)
    have ht3 := iterEvs_round ht1 h2 ht3
    refine Res.sat_mono (ih (p + 1) w3) ?_ ?_
    · intro _ w4 ih
      rw [ih, ht3]; exact streamEvs_round _ sid p _
    · intro _ w4 ⟨k, hk, hev⟩
      refine ⟨k + 1, by simp; omega, ?_⟩
      rw [hev, ht3]; exact streamEvs_round_deref _ sid p k

/-- `insert (pos, first, last)` with a single-pass range and `pos ≠ end ()`, for every world and every fault list:
    on return every position was dereferenced once and incremented once, in order, nothing beyond; on a throw either the
    whole range had been consumed (the throw came from the insertion proper) or a prefix, ending in the dereference of the
    element whose construction failed -/
theorem insertRangeInputMid_iter (cfg : Cfg) (c pos sid : Nat) (xs : List α) (w : World α) :
    match insertRangeInputMid cfg c pos sid xs w with
    | .ok _ w' => iterEvs w'.trace = iterEvs w.trace ++ streamEvs sid 0 xs.length
    | .thrown _ w' => iterEvs w'.trace = iterEvs w.trace ++ streamEvs sid 0 xs.length ∨
        ∃ k, k < xs.length ∧ iterEvs w'.trace = iterEvs w.trace ++ streamEvs sid 0 k ++ [.deref sid (0 + k)] := by
  suffices h : (insertRangeInputMid cfg c pos sid xs w).sat
      (fun _ w' => iterEvs w'.trace = iterEvs w.trace ++ streamEvs sid 0 xs.length)
      (fun _ w' => iterEvs w'.trace = iterEvs w.trace ++ streamEvs sid 0 xs.length ∨
        ∃ k, k < xs.length ∧ iterEvs w'.trace = iterEvs w.trace ++ streamEvs sid 0 k ++ [Ev.deref sid (0 + k)]) by
    cases hr : insertRangeInputMid cfg c pos sid xs w <;> rw [hr] at h <;> exact h
  unfold insertRangeInputMid
  rw [getV_bind]
  obtain ⟨tb, w1, hp, ht1⟩ : ∃ tb w1, (if (w.hdr c).N = 0 then pure nullBlk else allocTempN (w.hdr c).N : M α Nat) w = .ok tb w1 ∧
      w1.trace = w.trace := by
    split
    · exact ⟨_, _, rfl, rfl⟩
    · exact ⟨_, _, rfl, rfl⟩
  rw [bind_run, hp, ← ht1]
  simp only []
  rw [modV_bind]
  have hwipe := NoIter.wipe cfg scratch (α := α)
  refine sat_bind (sat_tryCatch (Q := fun _ w3 => iterEvs w3.trace = iterEvs w1.trace ++ streamEvs sid 0 xs.length)
      (E1 := fun _ w3 => ∃ k, k < xs.length ∧ iterEvs w3.trace = iterEvs w1.trace ++ streamEvs sid 0 k ++ [Ev.deref sid (0 + k)])
      ?_ ?_) ?_ (fun _ _ h => h)
  · refine sat_bind ?_ (fun _ _ h => h) (fun _ _ h => h)
    unfold appendRangeInput
    rw [getV_bind]
    exact sat_bind (appendRangeInputLoop_iter cfg scratch false _ sid xs 0 _) (fun _ _ h => h) (fun _ _ h => h)
  · intro e w3 ⟨k, hk, hev⟩
    exact sat_bind (hwipe.sat w3) (fun _ w4 h => Or.inr ⟨k, hk, by rw [h, hev]⟩) (fun _ w4 h => Or.inr ⟨k, hk, by rw [h, hev]⟩)
  · intro _ w3 ht3
    rw [getV_bind]
    exact Res.sat_mono ((NoIter.finally (Counts.isIter.insertRangeHelper cfg c pos _).noIter hwipe).sat w3)
      (fun _ w4 h => by rw [h, ht3]) (fun _ w4 h => Or.inl (by rw [h, ht3]))

end SvModel
