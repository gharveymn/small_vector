/-
The erase family: pop_back, erase(pos), erase(first,last), clear.
Normal return: refinement to the list operation, invariants, frame, capacity and buffer unchanged (C10), no allocation.
A throw (only a throwing move-assignment can cause one) leaves a valid container with the same number of live
(possibly moved-from) elements: basic guarantee (C06).
-/
import SvModel.Proofs.Kernel
import SvModel.Proofs.AssignSpec

namespace SvModel
open Gen
variable {α : Type}

theorem basic_of_touched (cfg : Cfg) {w w' : World α} {c : Nat} {P : Nat → Nat → Prop} (hv : VecOK cfg w c) (hl : Ledger w)
    (ht : Touched w w' P) (hP : ∀ b i, P b i → b = (w.hdr c).data ∧ i < (w.hdr c).size) :
    Basic cfg w w' c := by
  have hh : w'.hdr = upd w.hdr c { w.hdr c with size := (w.hdr c).size } := by
    rw [ht.ctl.hdr]; exact (upd_self w.hdr c).symm
  obtain ⟨h1, h2, h3⟩ := inplace_ok cfg hv hl ht.ctl.to0 hh hv.size_le
    (fun i hi => ht.isObj (hv.objs i hi))
    (fun i h1 h2 => isRaw_of_eq (ht.same _ i (fun hp => Nat.not_lt.mpr h1 (hP _ _ hp).2)) (hv.raws i h1 h2))
    (fun b i hb _ => ht.same b i (fun hp => hb (hP _ _ hp).1))
  exact ⟨h1, h2, ht.ctl.ub, h3⟩

structure Shrunk (cfg : Cfg) (w w' : World α) (c : Nat) (f : List (Val α) → List (Val α)) : Prop where
  basic  : Basic cfg w w' c
  holds  : ∀ xs, Holds w c xs → Holds w' c (f xs)
  data   : (w'.hdr c).data = (w.hdr c).data
  cap    : (w'.hdr c).cap = (w.hdr c).cap
  alloc  : (w'.hdr c).alloc = (w.hdr c).alloc
  noalloc : w'.next = w.next ∧ w'.live = w.live

theorem Shrunk.trans {cfg : Cfg} {a b d : World α} {c : Nat} {f g : List (Val α) → List (Val α)} (hl : Ledger a) (hv : VecOK cfg a c)
    (h1 : Shrunk cfg a b c f) (h2 : Shrunk cfg b d c g) : Shrunk cfg a d c (g ∘ f) :=
  ⟨Basic.trans hl hv h1.basic h2.basic, fun xs hx => h2.holds _ (h1.holds xs hx), h2.data.trans h1.data, h2.cap.trans h1.cap,
   h2.alloc.trans h1.alloc, h2.noalloc.1.trans h1.noalloc.1, h2.noalloc.2.trans h1.noalloc.2⟩

theorem Shrunk.congr {cfg : Cfg} {w w' : World α} {c : Nat} {f g : List (Val α) → List (Val α)} (h : Shrunk cfg w w' c f)
    (hfg : ∀ xs : List (Val α), xs.length = (w.hdr c).size → f xs = g xs) : Shrunk cfg w w' c g :=
  ⟨h.basic, fun xs hx => hfg xs hx.1 ▸ h.holds xs hx, h.data, h.cap, h.alloc, h.noalloc⟩

theorem Shrunk.refl {cfg : Cfg} {w : World α} {c : Nat} (hv : VecOK cfg w c) (hl : Ledger w) : Shrunk cfg w w c id :=
  ⟨Basic.refl hv hl, fun _ hx => hx, rfl, rfl, rfl, rfl, rfl⟩

theorem shrunk_of_destroyed (cfg : Cfg) {w w2 : World α} {c n : Nat} (hv : VecOK cfg w c) (hl : Ledger w)
    (hn : n ≤ (w.hdr c).size) (hc : Ctl0 w w2) (hh : w2.hdr = upd w.hdr c { w.hdr c with size := n })
    (hr : ∀ i, n ≤ i → i < (w.hdr c).size → IsRaw w2 (w.hdr c).data i)
    (hrest : ∀ (b i : Nat), ¬ (b = (w.hdr c).data ∧ n ≤ i ∧ i < (w.hdr c).size) → (w2.mem b)[i]? = (w.mem b)[i]?) :
    Shrunk cfg w w2 c (List.take n) := by
  obtain ⟨hvec, hled, hframe⟩ := inplace_ok cfg hv hl hc hh (Nat.le_trans hn hv.size_le)
    (fun i hi => isObj_of_eq (hrest _ i (fun h => Nat.not_le_of_lt hi h.2.1)) (hv.objs i (Nat.lt_of_lt_of_le hi hn)))
    (fun i h1 h2 => by
      by_cases h : i < (w.hdr c).size
      · exact hr i h1 h
      · exact isRaw_of_eq (hrest _ i (fun h' => h h'.2.2)) (hv.raws i (Nat.not_lt.mp h) h2))
    (fun b i hb _ => hrest b i (fun h => hb h.1))
  have hhc : w2.hdr c = { w.hdr c with size := n } := by rw [hh]; exact upd_same _ _ _
  refine ⟨⟨hvec, hled, hc.ub, hframe⟩, ?_, by rw [hhc], by rw [hhc], by rw [hhc], hc.next, hc.live⟩
  intro xs ⟨hxl, hxv⟩
  rw [← hxl] at hn
  refine ⟨by rw [hhc, List.length_take]; exact Nat.min_eq_left hn, fun i hi => ?_⟩
  have hi' := Nat.lt_min.mp (List.length_take ▸ hi)
  rw [hhc]
  show (w2.mem (w.hdr c).data)[i]? = _
  rw [hrest _ i (fun h => Nat.not_le_of_lt hi'.1 h.2.1), hxv i hi'.2, List.getElem_take]

theorem eraseLast_sat (cfg : Cfg) (c : Nat) (w : World α) (hv : VecOK cfg w c) (hl : Ledger w) (hpos : 0 < (w.hdr c).size) :
    (eraseLast cfg c w).sat (fun _ w' => Shrunk cfg w w' c List.dropLast) (fun _ _ => False) := by
  unfold eraseLast
  rw [getV_bind, setSize_bind]
  refine Res.sat_mono (destroyAt_sat cfg _ _ _ (hv.objs _ (Nat.sub_lt hpos Nat.one_pos))) ?_ (fun _ _ h => h)
  intro _ w2 ⟨hc2, hr2, hrest2⟩
  refine (shrunk_of_destroyed cfg hv hl (Nat.sub_le _ 1) hc2.to0.drop_hdr hc2.hdr ?_ ?_).congr
    (fun xs hx => by rw [List.dropLast_eq_take, hx])
  · intro i h1 h2
    rw [show i = (w.hdr c).size - 1 by omega]; exact hr2
  · intro b i h
    exact hrest2 b i (fun e => h ⟨(Prod.mk.inj e).1, by rw [(Prod.mk.inj e).2]; omega⟩)

/-- truncation to `n` elements: set_size then destroy_range (erase_to_end, erase_all, the tail of erase_range) -/
theorem truncate_sat (cfg : Cfg) (c n : Nat) (w : World α) (hv : VecOK cfg w c) (hl : Ledger w) (hn : n ≤ (w.hdr c).size) :
    ((setSize c n >>= fun _ => destroyRange cfg (w.hdr c).data n ((w.hdr c).size - n)) w).sat
      (fun _ w' => Shrunk cfg w w' c (List.take n)) (fun _ _ => False) := by
  rw [setSize_bind]
  have hsz : n + ((w.hdr c).size - n) = (w.hdr c).size := Nat.add_sub_cancel' hn
  refine Res.sat_mono (destroyRange_sat cfg _ _ n _ (fun i _ h2 => hv.objs i (hsz ▸ h2))) ?_ (fun _ _ h => h)
  intro _ w2 ⟨hc2, hr2, hrest2⟩
  rw [hsz] at hr2 hrest2
  exact shrunk_of_destroyed cfg hv hl hn hc2.to0.drop_hdr hc2.hdr hr2 hrest2

theorem eraseAll_sat (cfg : Cfg) (c : Nat) (w : World α) (hv : VecOK cfg w c) (hl : Ledger w) :
    (eraseAll cfg c w).sat (fun _ w' => Shrunk cfg w w' c (fun _ => [])) (fun _ _ => False) := by
  unfold eraseAll
  rw [getV_bind]
  exact Res.sat_mono (truncate_sat cfg c 0 w hv hl (Nat.zero_le _)) (fun _ _ h => h.congr (fun _ _ => List.take_zero))
    (fun _ _ h => h)

theorem eraseToEnd_sat (cfg : Cfg) (c pos : Nat) (w : World α) (hv : VecOK cfg w c) (hl : Ledger w) (hp : pos ≤ (w.hdr c).size) :
    (eraseToEnd cfg c pos w).sat (fun _ w' => Shrunk cfg w w' c (List.take pos)) (fun _ _ => False) := by
  unfold eraseToEnd
  rw [getV_bind, guard_eraseToEnd_0_eq]
  by_cases hz : (w.hdr c).size - pos ≠ 0
  · rw [if_pos (decide_eq_true hz)]
    exact truncate_sat cfg c pos w hv hl hp
  · rw [if_neg (by simpa using hz)]
    exact (Shrunk.refl hv hl).congr (fun xs hx => show xs = xs.take pos from (List.take_of_length_le (by omega)).symm)

theorem getElem?_take_append_drop {β} (xs : List β) {first : Nat} (last i : Nat) (h1 : first ≤ xs.length) :
    (xs.take first ++ xs.drop last)[i]? = if i < first then xs[i]? else xs[last + (i - first)]? := by
  rw [List.getElem?_append, List.length_take, Nat.min_eq_left h1]
  split
  · rw [List.getElem?_take_of_lt ‹_›]
  · rw [List.getElem?_drop]

theorem basic_of_shift (cfg : Cfg) {w w1 : World α} {c first last : Nat} (hv : VecOK cfg w c) (hl : Ledger w)
    (h2 : last ≤ (w.hdr c).size)
    (ht1 : Touched w w1 (fun b' i => b' = (w.hdr c).data ∧ first ≤ i ∧ i < last + ((w.hdr c).size - last))) :
    Basic cfg w w1 c :=
  basic_of_touched cfg hv hl ht1 (fun _ _ h => ⟨h.1, by have := h.2.2; omega⟩)

theorem shrunk_of_shift (cfg : Cfg) {w w1 w2 : World α} {c first last : Nat} (hv : VecOK cfg w c) (hl : Ledger w)
    (h1 : first ≤ last) (h2 : last ≤ (w.hdr c).size)
    (ht1 : Touched w w1 (fun b' i => b' = (w.hdr c).data ∧ first ≤ i ∧ i < last + ((w.hdr c).size - last)))
    (hv1 : ∀ k, k < (w.hdr c).size - last → (w1.mem (w.hdr c).data)[first + k]? = (w.mem (w.hdr c).data)[last + k]?)
    (hs2 : Shrunk cfg w1 w2 c (List.take (first + ((w.hdr c).size - last)))) :
    Shrunk cfg w w2 c (fun xs => xs.take first ++ xs.drop last) := by
  have hb1 := basic_of_shift cfg hv hl h2 ht1
  have hh1 : w1.hdr = w.hdr := ht1.ctl.hdr
  refine ⟨Basic.trans hl hv hb1 hs2.basic, fun xs hx => ?_, by rw [hs2.data, hh1], by rw [hs2.cap, hh1], by rw [hs2.alloc, hh1],
          by rw [hs2.noalloc.1, ht1.ctl.next], by rw [hs2.noalloc.2, ht1.ctl.live]⟩
  -- the intermediate contents `ys`: their first `first + (size - last)` values are what remains of `xs`
  obtain ⟨ys, hy⟩ := hb1.vec.holds_exists
  have hxl := hx.1
  rw [← hxl] at h2 hv1 ht1 hs2
  have hzl : (xs.take first ++ xs.drop last).length = first + (xs.length - last) := by
    rw [List.length_append, List.length_take, List.length_drop, Nat.min_eq_left (Nat.le_trans h1 h2)]
  have heq := hy.take_eq (zs := xs.take first ++ xs.drop last) (by rw [hzl, hy.1, hh1, ← hxl]; omega) (fun i hi => by
    rw [hzl] at hi
    rw [hh1, getElem?_take_append_drop xs last i (Nat.le_trans h1 h2)]
    split
    · rw [ht1.same _ i (fun h => by omega)]
      exact hx.get? i (by omega)
    · have hk := hv1 (i - first) (by omega)
      rw [Nat.add_sub_cancel' (by omega)] at hk
      rw [hk]
      exact hx.get? _ (by omega))
  rw [hzl] at heq
  rw [← heq]; exact hs2.holds ys hy

/-- erase (first, last): shift the tail left (`moveLeft`), then truncate; a throwing move assignment leaves a valid
    container with its header unchanged -/
theorem eraseRange_sat (cfg : Cfg) (c first last : Nat) (w : World α) (hv : VecOK cfg w c) (hl : Ledger w)
    (h1 : first ≤ last) (h2 : last ≤ (w.hdr c).size) :
    (eraseRange cfg c first last w).sat
      (fun r w' => r = first ∧ Shrunk cfg w w' c (fun xs => xs.take first ++ xs.drop last))
      (fun e w' => e = .elem ∧ Basic cfg w w' c ∧ (w'.hdr c) = (w.hdr c)) := by
  unfold eraseRange
  rw [getV_bind, guard_eraseRange_0_eq]
  by_cases hz : last - first ≠ 0
  · rw [if_pos (decide_eq_true hz)]
    refine sat_bind (moveLeft_sat cfg (w.hdr c).data ((w.hdr c).size - last) last first w (by omega)
      (fun j _ hj => hv.objs j (by omega))) (fun _ w1 hm => ?_) ?_
    · obtain ⟨ht1, hv1⟩ := hm
      have hb1 := basic_of_shift cfg hv hl h2 ht1
      refine sat_bind (eraseToEnd_sat cfg c (first + ((w.hdr c).size - last)) w1 hb1.vec hb1.led (by rw [ht1.ctl.hdr]; omega))
        (fun _ w2 hs2 => ?_) (fun _ _ h => h.elim)
      exact ⟨rfl, shrunk_of_shift cfg hv hl h1 h2 ht1 hv1 hs2⟩
    · intro e w1 ⟨he, ht1⟩
      exact ⟨he, basic_of_shift cfg hv hl h2 ht1, by rw [ht1.ctl.hdr]⟩
  · rw [if_neg (by simpa using hz)]
    have hfl : first = last := by omega
    exact ⟨rfl, (Shrunk.refl hv hl).congr (fun xs _ => by rw [hfl]; exact (List.take_append_drop last xs).symm)⟩

theorem eraseAt_sat (cfg : Cfg) (c pos : Nat) (w : World α) (hv : VecOK cfg w c) (hl : Ledger w) (hp : pos < (w.hdr c).size) :
    (eraseAt cfg c pos w).sat
      (fun r w' => r = pos ∧ Shrunk cfg w w' c (fun xs => xs.take pos ++ xs.drop (pos + 1)))
      (fun e w' => e = .elem ∧ Basic cfg w w' c ∧ (w'.hdr c) = (w.hdr c)) := by
  unfold eraseAt
  rw [getV_bind]
  refine sat_bind (moveLeft_sat cfg (w.hdr c).data ((w.hdr c).size - (pos + 1)) (pos + 1) pos w (Nat.lt_succ_self _)
    (fun j _ hj => hv.objs j (by omega))) (fun _ w1 hm => ?_) ?_
  · obtain ⟨ht1, hv1⟩ := hm
    have hb1 := basic_of_shift cfg hv hl hp ht1
    have hs1 : (w1.hdr c).size = (w.hdr c).size := by rw [ht1.ctl.hdr]
    refine sat_bind (eraseLast_sat cfg c w1 hb1.vec hb1.led (by omega)) (fun _ w2 hs2 => ?_) (fun _ _ h => h.elim)
    refine ⟨rfl, shrunk_of_shift cfg hv hl (Nat.le_succ _) hp ht1 hv1 (hs2.congr (fun ys hy => ?_))⟩
    rw [List.dropLast_eq_take, hy, hs1]
    congr 1; omega
  · intro e w1 ⟨he, ht1⟩
    exact ⟨he, basic_of_shift cfg hv hl hp ht1, by rw [ht1.ctl.hdr]⟩

theorem moveLeft_zero (cfg : Cfg) (b first dfirst : Nat) (w : World α) : moveLeft cfg b first 0 dfirst w = .ok () w := by
  simp [moveLeft, srcsMove, assignGen]; rfl

/-- erase_range up to the end never throws (there is no tail to shift) -/
theorem eraseRange_end_sat (cfg : Cfg) (c first : Nat) (w : World α) (hv : VecOK cfg w c) (hl : Ledger w)
    (h1 : first ≤ (w.hdr c).size) :
    (eraseRange cfg c first (w.hdr c).size w).sat (fun _ w' => Shrunk cfg w w' c (List.take first)) (fun _ _ => False) := by
  unfold eraseRange
  rw [getV_bind, guard_eraseRange_0_eq]
  by_cases hz : (w.hdr c).size - first ≠ 0
  · rw [if_pos (decide_eq_true hz)]
    rw [bind_run, Nat.sub_self, moveLeft_zero]
    simp only [Nat.add_zero]
    refine sat_bind (eraseToEnd_sat cfg c first w hv hl h1) (fun _ w' h => ?_) (fun _ _ h => h)
    exact h
  · rw [if_neg (by simpa using hz)]
    exact (Shrunk.refl hv hl).congr (fun xs hx => show xs = xs.take first from (List.take_of_length_le (by omega)).symm)

end SvModel
