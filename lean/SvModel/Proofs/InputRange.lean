/-
Single-pass (input iterator) ranges: `append_range` for input iterators is one `append_element` per position.
For every fault list: values appended in order (refinement), invariants, roll-back to the original size under the
strong policy, and the iterator protocol — position p is dereferenced once, then incremented once, in sequence
order, and nothing is touched at or beyond `last` (C15).
-/
import SvModel.Proofs.AppendN
import SvModel.Proofs.Trace

namespace SvModel
open Gen
variable {α : Type}

/-- the iterator events of consuming `n` positions starting at `p` -/
def streamEvs (sid p : Nat) : Nat → List Ev
  | 0 => []
  | n+1 => .deref sid p :: .incr sid p :: streamEvs sid (p + 1) n

theorem iterEvs_round {t t1 t2 t3 : List Ev} {sid p : Nat} (h1 : iterEvs t1 = iterEvs t ++ [.deref sid p])
    (h2 : iterEvs t2 = iterEvs t1) (h3 : t3 = t2 ++ [.incr sid p]) : iterEvs t3 = iterEvs t ++ [.deref sid p, .incr sid p] := by
  rw [h3, iterEvs_append, h2, h1, List.append_assoc]; rfl

theorem streamEvs_round (t : List Ev) (sid p n : Nat) :
    t ++ [.deref sid p, .incr sid p] ++ streamEvs sid (p + 1) n = t ++ streamEvs sid p (n + 1) := by
  rw [List.append_assoc]; rfl

theorem streamEvs_round_deref (t : List Ev) (sid p k : Nat) :
    t ++ [.deref sid p, .incr sid p] ++ streamEvs sid (p + 1) k ++ [.deref sid (p + 1 + k)] =
      t ++ streamEvs sid p (k + 1) ++ [.deref sid (p + (k + 1))] := by
  rw [Nat.add_assoc, Nat.add_comm 1 k, List.append_assoc t]; rfl

theorem streamEvs_first_deref (t : List Ev) (sid p : Nat) : t ++ [.deref sid p] = t ++ streamEvs sid p 0 ++ [.deref sid (p + 0)] := by
  rw [show streamEvs sid p 0 = [] from rfl, List.append_nil]; rfl

theorem streamEvs_append (sid : Nat) : ∀ (a p b : Nat), streamEvs sid p a ++ streamEvs sid (p + a) b = streamEvs sid p (a + b)
  | 0, p, b => by simp [streamEvs]
  | a+1, p, b => by
    have := streamEvs_append sid a (p + 1) b
    rw [show p + 1 + a = p + (a + 1) by omega] at this
    rw [show a + 1 + b = (a + b) + 1 by omega]
    simp only [streamEvs, List.cons_append]
    rw [this]

theorem appendRangeInputLoop_sat (cfg : Cfg) (c : Nat) (strong : Bool) (orig sid : Nat)
    (hpol : movesFor cfg true = true → cfg.tMove = false) :
    ∀ (xs : List α) (p : Nat) (w : World α), VecOK cfg w c → Ledger w → (w.hdr c).N ≤ cfg.maxSize → orig ≤ (w.hdr c).size →
    (appendRangeInputLoop cfg c strong orig sid p xs w).sat
      (fun _ w' => Basic cfg w w' c ∧ (∀ ys, Holds w c ys → Holds w' c (ys ++ xs.map Val.val)) ∧
                   iterEvs w'.trace = iterEvs w.trace ++ streamEvs sid p xs.length)
      (fun _ w' => Basic cfg w w' c ∧
                   (∀ ys, Holds w c ys → ∃ k, k < xs.length ∧
                      Holds w' c (if strong then ys.take orig else ys ++ (xs.take k).map Val.val) ∧
                      iterEvs w'.trace = iterEvs w.trace ++ streamEvs sid p k ++ [.deref sid (p + k)])) := by
  intro xs
  induction xs with
  | nil =>
    intro p w hv hl _ _
    show Basic cfg w w c ∧ _
    exact ⟨Basic.refl hv hl, fun ys h => by simpa using h, by simp [streamEvs]⟩
  | cons x xs ih =>
    intro p w hv hl hN ho
    unfold appendRangeInputLoop
    refine sat_bind (emit_sat (.deref sid p) w) (fun _ w1 ⟨hq1, ht1⟩ => ?_) (fun _ _ h => h.elim)
    have hm1 : w1.mem = w.mem := hq1.1
    have hh1 : w1.hdr = w.hdr := hq1.2.hdr
    have hy1 : ∀ ys, Holds w c ys → Holds w1 c ys := fun ys hy => hy.of_same (by rw [hm1]) (by rw [hh1]) (by rw [hh1])
    have hb01 : Basic cfg w w1 c := (Basic.refl hv hl).of_quiet hl hv hq1
    have htr1 : iterEvs w1.trace = iterEvs w.trace ++ [.deref sid p] := by rw [ht1, iterEvs_append]; rfl
    have hN1 : (w1.hdr c).N ≤ cfg.maxSize := by rw [hh1]; exact hN
    have happ := Res.sat_and (appendElement_sat cfg c (.ext x) w1 hb01.vec hb01.led hN1 (argOK_ext cfg w1 c x) hpol)
      ((NoIter.appendElement cfg c (Src.ext x)).sat w1)
    have hok : ∀ (r : Nat) (w2 : World α), (r = (w1.hdr c).size ∧ Pushed cfg w1 w2 c (srcVal w1 (.ext x))) ∧
        iterEvs w2.trace = iterEvs w1.trace → Pushed cfg w1 w2 c (.val x) ∧ iterEvs w2.trace = iterEvs w1.trace :=
      fun _ _ h => ⟨h.1.2, h.2⟩
    have hstep : ((if strong = true then
          tryCatch (appendElement cfg c (.ext x))
            (fun e => getV c >>= fun v => eraseRange cfg c orig v.size >>= fun _ => throwE e)
        else appendElement cfg c (.ext x)) w1).sat
        (fun _ w2 => Pushed cfg w1 w2 c (.val x) ∧ iterEvs w2.trace = iterEvs w1.trace)
        (fun _ w2 => Basic cfg w1 w2 c ∧ iterEvs w2.trace = iterEvs w1.trace ∧
                     (∀ ys, Holds w1 c ys → Holds w2 c (if strong then ys.take orig else ys))) := by
      cases strong
      · simp only [Bool.false_eq_true, if_false]
        exact Res.sat_mono happ hok
          (fun _ w2 h => ⟨h.1.basic hb01.led hb01.vec, h.2, fun ys hy => h.1.holds hb01.led hb01.vec hy⟩)
      · simp only [if_true]
        refine sat_tryCatch (Res.sat_mono happ hok (fun _ _ h => h)) ?_
        intro e w2 ⟨hs2, hni⟩
        rw [getV_bind]
        have hsz2 : (w2.hdr c).size = (w.hdr c).size := by rw [hs2.hdr, hh1]
        refine sat_bind (Res.sat_and
            (eraseRange_end_sat cfg c orig w2 (hs2.vecOK hb01.led hb01.vec) hs2.led (by rw [hsz2]; exact ho))
            ((NoIter.eraseRange cfg c orig (w2.hdr c).size).sat w2))
          (fun _ w3 ⟨her, hni2⟩ => ?_) (fun _ _ h => h.1.elim)
        show Basic cfg w1 w3 c ∧ _
        exact ⟨Basic.trans hb01.led hb01.vec (hs2.basic hb01.led hb01.vec) her.basic, by rw [hni2, hni],
               fun ys h => her.holds ys (hs2.holds hb01.led hb01.vec h)⟩
    refine sat_bind hstep (fun _ w2 h2 => ?_) (fun e w2 h2 => ?_)
    · obtain ⟨hp2, htr2⟩ := h2
      refine sat_bind (emit_sat (.incr sid p) w2) (fun _ w3 ⟨hq3, ht3⟩ => ?_) (fun _ _ h => h.elim)
      have hm3 : w3.mem = w2.mem := hq3.1
      have hh3 : w3.hdr = w2.hdr := hq3.2.hdr
      have hy3 : ∀ ys, Holds w c ys → Holds w3 c (ys ++ [.val x]) := fun ys hy =>
        (hp2.holds ys (hy1 ys hy)).of_same (by rw [hm3]) (by rw [hh3]) (by rw [hh3])
      have hb03 := Basic.trans hl hv hb01 ((⟨hp2.vec, hp2.led, hp2.ub, hp2.frame⟩ : Basic cfg w1 w2 c).of_quiet hb01.led hb01.vec hq3)
      have htr3 := iterEvs_round htr1 htr2 ht3
      have hN3 : (w3.hdr c).N ≤ cfg.maxSize := by rw [hb03.frame.hdr_N]; exact hN
      have ho3 : orig ≤ (w3.hdr c).size := by rw [hh3, hp2.size, hh1]; omega
      refine Res.sat_mono (ih (p + 1) w3 hb03.vec hb03.led hN3 ho3) ?_ ?_
      · intro _ w' ⟨hb, hh, htr⟩
        refine ⟨Basic.trans hl hv hb03 hb, ?_, ?_⟩
        · intro ys hy
          have := hh _ (hy3 ys hy)
          simpa using this
        · rw [htr, htr3]; exact streamEvs_round _ sid p _
      · intro _ w' ⟨hb, hh⟩
        refine ⟨Basic.trans hl hv hb03 hb, ?_⟩
        intro ys hy
        obtain ⟨k, hk, hhold, htr⟩ := hh _ (hy3 ys hy)
        refine ⟨k + 1, by simp; omega, ?_, ?_⟩
        · cases strong
          · simp only [Bool.false_eq_true, if_false] at hhold ⊢
            simpa using hhold
          · simp only [if_true] at hhold ⊢
            have hlen : orig ≤ ys.length := by rw [hy.1]; exact ho
            rw [List.take_append_of_le_length hlen] at hhold; exact hhold
        · rw [htr, htr3]; exact streamEvs_round_deref _ sid p k
    · obtain ⟨hb2, htr2, hh2⟩ := h2
      refine ⟨Basic.trans hl hv hb01 hb2, ?_⟩
      intro ys hy
      refine ⟨0, by simp, ?_, ?_⟩
      · have := hh2 ys (hy1 ys hy)
        cases strong
        · simpa using this
        · simpa using this
      · rw [htr2, htr1]; exact streamEvs_first_deref _ sid p

end SvModel
