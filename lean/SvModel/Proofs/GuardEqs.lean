/-
What the generated guards say in terms of the header they are evaluated on: a Boolean combination of comparisons of
fields of the environment `genv cfg v` (`genv2 cfg v ov` for an operation on two containers) and of the operation's
arguments; proofs rewrite with these equations and then split on the proposition.
-/
import SvModel.Ops

namespace SvModel
open Gen
variable (cfg : Cfg) (v ov : Vec)

theorem guard_checkedAllocate_0_eq (n : Nat) :
    guard_checkedAllocate_0 { maxSize := cfg.maxSize, request := n } = decide (cfg.maxSize < n) := rfl
theorem guard_wipe_0_eq : guard_wipe_0 (genv cfg v) = decide (v.N < v.cap) := rfl

theorem guard_appendElement_0_eq : guard_appendElement_0 (genv cfg v) = decide (v.size < v.cap) := rfl
theorem guard_emplaceIntoReallocationEnd_0_eq :
    guard_emplaceIntoReallocationEnd_0 (genv cfg v) = decide (cfg.maxSize = v.size) := rfl
theorem guard_appendCopies_0_eq (n : Nat) :
    guard_appendCopies_0 { genv cfg v with count := n } = decide (v.cap - v.size < n) := rfl
theorem guard_appendCopies_1_eq (n : Nat) :
    guard_appendCopies_1 { genv cfg v with count := n } = decide (cfg.maxSize - v.size < n) := rfl
theorem guard_appendRange2_0_eq (n : Nat) :
    guard_appendRange2_0 { genv cfg v with numInsert := n } = decide (v.cap - v.size < n) := rfl
theorem guard_appendRange2_1_eq (n : Nat) :
    guard_appendRange2_1 { genv cfg v with numInsert := n } = decide (cfg.maxSize - v.size < n) := rfl

theorem guard_emplaceAt_0_eq : guard_emplaceAt_0 (genv cfg v) = decide (v.size < v.cap) := rfl
theorem guard_emplaceIntoCurrent0_0_eq (pos : Nat) :
    guard_emplaceIntoCurrent0_0 { genv cfg v with pos := pos } = decide (pos = v.size) := rfl
theorem guard_emplaceIntoCurrent1_0_eq (pos : Nat) :
    guard_emplaceIntoCurrent1_0 { genv cfg v with pos := pos } = decide (pos = v.size) := rfl
theorem guard_emplaceIntoReallocation_0_eq (pos : Nat) :
    guard_emplaceIntoReallocation_0 { genv cfg v with offset := pos } = decide (pos = v.size) := rfl
theorem guard_emplaceIntoReallocation_1_eq : guard_emplaceIntoReallocation_1 (genv cfg v) = decide (cfg.maxSize = v.size) := rfl
theorem guard_insertCopies_0_eq (pos n t : Nat) :
    guard_insertCopies_0 { genv cfg v with pos := pos, count := n, tailSize := t } = decide (0 = n) := rfl
theorem guard_insertCopies_1_eq (pos n t : Nat) :
    guard_insertCopies_1 { genv cfg v with pos := pos, count := n, tailSize := t } = decide (pos = v.size) := rfl
theorem guard_insertCopies_2_eq (pos n t : Nat) :
    guard_insertCopies_2 { genv cfg v with pos := pos, count := n, tailSize := t } = decide (1 = n) := rfl
theorem guard_insertCopies_3_eq (pos n t : Nat) :
    guard_insertCopies_3 { genv cfg v with pos := pos, count := n, tailSize := t } = decide (v.cap - v.size < n) := rfl
theorem guard_insertCopies_4_eq (pos n t : Nat) :
    guard_insertCopies_4 { genv cfg v with pos := pos, count := n, tailSize := t } = decide (cfg.maxSize - v.size < n) := rfl
theorem guard_insertCopies_5_eq (pos count t : Nat) :
    guard_insertCopies_5 { genv cfg v with pos := pos, count := count, tailSize := t } = decide (t < count) := rfl
theorem guard_insertRange1_0_eq (pos n : Nat) :
    guard_insertRange1_0 { genv cfg v with pos := pos, numInsert := n } = !decide (pos = v.size) := rfl
theorem guard_insertRange1_1_eq (pos n : Nat) :
    guard_insertRange1_1 { genv cfg v with pos := pos, numInsert := n } = decide (n = 1) := rfl
theorem guard_insertRangeHelper_0_eq (pos n t : Nat) :
    guard_insertRangeHelper_0 { genv cfg v with pos := pos, numInsert := n, tailSize := t } = decide (v.cap - v.size < n) := rfl
theorem guard_insertRangeHelper_1_eq (pos n t : Nat) :
    guard_insertRangeHelper_1 { genv cfg v with pos := pos, numInsert := n, tailSize := t } = decide (cfg.maxSize - v.size < n) := rfl
theorem guard_insertRangeHelper_2_eq (pos n t : Nat) :
    guard_insertRangeHelper_2 { genv cfg v with pos := pos, numInsert := n, tailSize := t } = decide (t < n) := rfl

theorem guard_eraseToEnd_0_eq (pos : Nat) :
    guard_eraseToEnd_0 { genv cfg v with pos := pos } = decide (v.size - pos ≠ 0) := rfl
theorem guard_eraseRange_0_eq (n : Nat) : guard_eraseRange_0 { numInsert := n } = decide (n ≠ 0) := rfl

theorem guard_resizeWith_0_eq (n : Nat) : guard_resizeWith_0 { newSize := n } = decide (n = 0) := rfl
theorem guard_resizeWith_1_eq (n : Nat) : guard_resizeWith_1 { genv cfg v with newSize := n } = decide (v.cap < n) := rfl
theorem guard_resizeWith_2_eq (n : Nat) : guard_resizeWith_2 { genv cfg v with newSize := n } = decide (cfg.maxSize < n) := rfl
theorem guard_resizeWith_3_eq (n : Nat) : guard_resizeWith_3 { genv cfg v with newSize := n } = decide (v.size < n) := rfl
theorem guard_requestCapacity_0_eq (n : Nat) :
    guard_requestCapacity_0 { genv cfg v with request := n } = decide (n ≤ v.cap) := rfl
theorem guard_shrinkToSize_0_eq :
    guard_shrinkToSize_0 (genv cfg v) = (!decide (v.N < v.cap) || decide (v.size = v.cap)) := rfl
theorem guard_shrinkToSize_1_eq : guard_shrinkToSize_1 (genv cfg v) = decide (v.N < v.size) := rfl
theorem guard_shrinkToSize_2_eq (ncap : Nat) :
    guard_shrinkToSize_2 { genv cfg v with newCap := ncap } = decide (v.N < ncap) := rfl

theorem guard_assignWithCopies_0_eq (n : Nat) : guard_assignWithCopies_0 { genv cfg v with count := n } = decide (v.cap < n) := rfl
theorem guard_assignWithCopies_1_eq (n : Nat) : guard_assignWithCopies_1 { genv cfg v with count := n } = decide (v.size < n) := rfl
theorem guard_assignWithRange0_0_eq (n : Nat) : guard_assignWithRange0_0 { numInsert := n } = decide (n = 0) := rfl
theorem guard_assignWithRange1_0_eq (n : Nat) : guard_assignWithRange1_0 { genv cfg v with count := n } = decide (v.cap < n) := rfl
theorem guard_assignWithRange1_1_eq (n : Nat) : guard_assignWithRange1_1 { genv cfg v with count := n } = decide (v.size < n) := rfl

-- `v` this container, `ov` the other; `hasAllocation` is `N < cap`
theorem guard_copyAssign0_0_eq : guard_copyAssign0_0 (genv2 cfg v ov) = (ov.alloc == v.alloc) := rfl
theorem guard_moveInitialize1_0_eq : guard_moveInitialize1_0 (genv2 cfg v ov) = decide (v.N < ov.cap) := rfl
theorem guard_moveInitialize2_0_eq : guard_moveInitialize2_0 (genv2 cfg v ov) = decide (ov.N < ov.cap) := rfl
theorem guard_moveInitialize2_1_eq : guard_moveInitialize2_1 (genv2 cfg v ov) = decide (v.N < ov.size) := rfl
theorem guard_moveAssignDefault1_0_eq : guard_moveAssignDefault1_0 (genv2 cfg v ov) = decide (v.N < ov.cap) := rfl
theorem guard_moveAssignDefault2_0_eq : guard_moveAssignDefault2_0 (genv2 cfg v ov) = decide (ov.N < ov.cap) := rfl
theorem guard_moveAssign1_0_eq : guard_moveAssign1_0 (genv2 cfg v ov) = (ov.alloc == v.alloc) := rfl
theorem guard_copyAssignDefault_0_eq : guard_copyAssignDefault_0 (genv2 cfg v ov) = decide (v.cap < ov.size) := rfl
theorem guard_copyAssignDefault_1_eq : guard_copyAssignDefault_1 (genv2 cfg v ov) = decide (v.size < ov.size) := rfl
theorem guard_copyAssign0_1_eq : guard_copyAssign0_1 (genv2 cfg v ov) = decide (v.N < ov.size) := rfl
theorem guard_copyAssign0_2_eq : guard_copyAssign0_2 (genv2 cfg v ov) = decide (v.N < v.cap) := rfl
theorem guard_copyAssign0_3_eq : guard_copyAssign0_3 (genv2 cfg v ov) = decide (v.size < ov.size) := rfl
theorem guard_moveAssignDefault1_1_eq : guard_moveAssignDefault1_1 (genv2 cfg v ov) = decide (v.N < v.cap) := rfl
theorem guard_moveAssignDefault1_2_eq : guard_moveAssignDefault1_2 (genv2 cfg v ov) = decide (v.size < ov.size) := rfl
theorem guard_moveAssignDefault2_1_eq : guard_moveAssignDefault2_1 (genv2 cfg v ov) =
    (decide (v.cap < ov.size) || (decide (v.N < v.cap) && !(ov.alloc == v.alloc))) := rfl
theorem guard_moveAssignDefault2_2_eq : guard_moveAssignDefault2_2 (genv2 cfg v ov) = decide (v.size < ov.size) := rfl
theorem guard_moveAssignUnequalNoPropagate_0_eq :
    guard_moveAssignUnequalNoPropagate_0 (genv2 cfg v ov) = decide (v.cap < ov.size) := rfl
theorem guard_moveAssignUnequalNoPropagate_1_eq :
    guard_moveAssignUnequalNoPropagate_1 (genv2 cfg v ov) = decide (v.size < ov.size) := rfl

theorem guard_swapDefault_0_eq : guard_swapDefault_0 (genv2 cfg v ov) = decide (v.N < v.cap) := rfl
theorem guard_swapDefault_1_eq : guard_swapDefault_1 (genv2 cfg v ov) = decide (ov.N < ov.cap) := rfl
theorem guard_swapDefault_2_eq : guard_swapDefault_2 (genv2 cfg v ov) = decide (v.size < ov.size) := rfl
theorem guard_swapUnequalNoPropagate_0_eq : guard_swapUnequalNoPropagate_0 (genv2 cfg v ov) = decide (v.cap < ov.size) := rfl
theorem guard_swapUnequalNoPropagate_1_eq : guard_swapUnequalNoPropagate_1 (genv2 cfg v ov) = decide (v.N < v.cap) := rfl
theorem guard_swapUnequalNoPropagate_2_eq : guard_swapUnequalNoPropagate_2 (genv2 cfg v ov) = decide (v.size < ov.size) := rfl
theorem guard_swap1_0_eq : guard_swap1_0 (genv2 cfg v ov) = decide (v.cap < ov.cap) := rfl
theorem guard_swap2_0_eq : guard_swap2_0 (genv2 cfg v ov) = decide (v.cap < ov.cap) := rfl
theorem guard_swap2_1_eq : guard_swap2_1 (genv2 cfg v ov) = (ov.alloc == v.alloc) := rfl
theorem guard_swap2_2_eq : guard_swap2_2 (genv2 cfg v ov) = (ov.alloc == v.alloc) := rfl

-- element access: the header may spell the range test of `at ()` as `size () <= pos` or as `! (pos < size ())`; both
-- regenerate to this condition, the second one not by `rfl`
theorem guard_at0_0_eq (e : GuardEnv) : guard_at0_0 e = decide (e.size ≤ e.pos) := by
  first | rfl | (simp only [guard_at0_0]; rw [Bool.eq_iff_iff]; simp; try omega)
theorem guard_at1_0_eq (e : GuardEnv) : guard_at1_0 e = decide (e.size ≤ e.pos) := by
  first | rfl | (simp only [guard_at1_0]; rw [Bool.eq_iff_iff]; simp; try omega)

end SvModel
