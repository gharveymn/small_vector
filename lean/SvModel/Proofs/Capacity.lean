/-
reserve (`request_capacity`) and shrink_to_fit (`shrink_to_size`): strong guarantee on every throw; on normal return the
contents are unchanged, the invariants hold, reserve(n ≤ capacity) is a no-op, capacity ≥ n afterwards, and a successful
shrink_to_fit leaves capacity = max(size, N).
-/
import SvModel.Proofs.Append
import SvModel.Proofs.Erase
import SvModel.Proofs.GrowCalls
import SvModel.Proofs.ToInline

namespace SvModel
open Gen
variable {α : Type}

structure Kept (cfg : Cfg) (w w' : World α) (c : Nat) : Prop where
  basic : Basic cfg w w' c
  holds : ∀ xs, Holds w c xs → Holds w' c xs
  size  : (w'.hdr c).size = (w.hdr c).size
  alloc : (w'.hdr c).alloc = (w.hdr c).alloc

theorem Kept.refl {cfg : Cfg} {w : World α} {c : Nat} (hv : VecOK cfg w c) (hl : Ledger w) : Kept cfg w w c :=
  ⟨Basic.refl hv hl, fun _ h => h, rfl, rfl⟩

theorem relocate_all_sat (cfg : Cfg) (c ncap : Nat) (w w2 : World α) (hv : VecOK cfg w c) (hl : Ledger w)
    (hstrong : movesFor cfg true = true → cfg.tMove = false)
    (hb2 : Built cfg w w2 c ncap) (hraw2 : ∀ i, i < ncap → IsRaw w2 w.next i)
    (hoth2 : ∀ b, b ≠ w.next → w2.mem b = w.mem b) (hcap : (w.hdr c).size ≤ ncap) :
    (tryCatch (uninitializedMove cfg true (w.hdr c).data 0 (w.hdr c).size w.next 0)
        (fun e => deallocate (w.hdr c).alloc w.next ncap >>= fun _ => throwE e) w2).sat
      (fun _ w4 => Built cfg w w4 c ncap ∧
        (∀ i, i < (w.hdr c).size → (w4.mem w.next)[i]? = (w.mem (w.hdr c).data)[i]?) ∧
        (∀ i, (w.hdr c).size ≤ i → i < ncap → IsRaw w4 w.next i))
      (fun _ w' => Strong w w') := by
  have hnd := (hv.next_ne hl).1
  have hdata2 : w2.mem (w.hdr c).data = w.mem (w.hdr c).data := hoth2 _ (Ne.symm hnd)
  refine sat_tryCatch (Res.sat_mono (BuiltA.reloc_front_sat true hb2 hnd
    (fun i hi => hraw2 i (Nat.lt_of_lt_of_le hi hcap))) ?_ (fun _ _ h => h)) ?_
  · intro _ w4 ⟨hb4, hcopy, hnew⟩
    exact ⟨hb4, fun i hi => by rw [hcopy i hi, hdata2], fun i h1 h2 => isRaw_of_eq (hnew i h1) (hraw2 i h2)⟩
  · intro e w4 ⟨_, _, hb4, hfront, hnew, hkept⟩
    obtain ⟨w6, hd, hs6⟩ := abort_realloc hv hl hb4 (fun i _ => by rw [hkept rfl hstrong i, hdata2])
      (fun i hi => isRaw_of_reloc_failed hfront hnew (hraw2 i hi))
    rw [bind_run, hd]
    exact hs6

/-- the common tail of reserve and shrink_to_fit -/
theorem switch_kept_sat (cfg : Cfg) (c ncap : Nat) (w w4 : World α) (hv : VecOK cfg w c) (hl : Ledger w)
    (hb4 : Built cfg w w4 c ncap) (hN : (w.hdr c).N < ncap) (hmax : ncap ≤ cfg.maxSize) (hsz : (w.hdr c).size ≤ ncap)
    (hcopy4 : ∀ i, i < (w.hdr c).size → (w4.mem w.next)[i]? = (w.mem (w.hdr c).data)[i]?)
    (hraw4 : ∀ i, (w.hdr c).size ≤ i → i < ncap → IsRaw w4 w.next i) :
    ((wipe cfg c >>= fun _ => setDataPtr c w.next >>= fun _ => setCapacity c ncap) w4).sat
      (fun _ w' => Kept cfg w w' c ∧ (w'.hdr c).cap = ncap ∧ (w'.hdr c).data = w.next) (fun _ _ => False) := by
  refine sat_bind (wipe_sat cfg c w4 (hb4.vecOK hv hl)) (fun _ w5 hw => ?_) (fun _ _ h => h)
  rw [setDataPtr_setCapacity_run]
  refine Res.sat_mono (hb4.switch hv hl hN hmax hsz (fun i hi => isObj_of_eq (hcopy4 i hi) (hv.objs i hi)) hraw4 hw
    (by rw [hw.hdr, hb4.hdr])) ?_ (fun _ _ h => h)
  intro _ w' ⟨hvec, hled, hframe, hub, hhc, hmemn, _⟩
  refine ⟨⟨⟨hvec, hled, hub, hframe⟩, fun xs hx => ⟨by rw [hhc]; exact hx.1, fun i hi => ?_⟩, by rw [hhc], by rw [hhc]⟩,
          by rw [hhc], by rw [hhc]⟩
  rw [hhc]
  show (w'.mem w.next)[i]? = _
  rw [hmemn, hcopy4 i (hx.1 ▸ hi)]
  exact hx.2 i hi

theorem requestCapacity_sat (cfg : Cfg) (c request : Nat) (w : World α)
    (hv : VecOK cfg w c) (hl : Ledger w)
    (hstrong : movesFor cfg true = true → cfg.tMove = false) :
    (requestCapacity cfg c request w).sat
      (fun _ w' => Kept cfg w w' c ∧ request ≤ (w'.hdr c).cap ∧
        (request ≤ (w.hdr c).cap → w'.hdr = w.hdr ∧ w'.mem = w.mem ∧ w'.next = w.next ∧ w'.live = w.live) ∧
        (¬ request ≤ (w.hdr c).cap → (w'.hdr c).cap = newCapacity cfg.maxSize (w.hdr c).cap request ∧ (w'.hdr c).data = w.next))
      (fun _ w' => Strong w w') := by
  unfold requestCapacity
  rw [requestCapacity_calls.1, requestCapacity_calls.2]
  simp only [calcNewCapacity_checked, allocateBy_unchecked]
  rw [getV_bind, guard_requestCapacity_0_eq]
  by_cases hfit : request ≤ (w.hdr c).cap
  · rw [if_pos (decide_eq_true hfit)]
    exact ⟨Kept.refl hv hl, hfit, fun _ => ⟨rfl, rfl, rfl, rfl⟩, fun h => absurd hfit h⟩
  rw [if_neg (by simpa using hfit), bind_run, checkedCalc_run]
  by_cases hbig : cfg.maxSize < request
  · rw [if_pos hbig]
    exact Strong.refl hl
  rw [if_neg hbig]
  simp only []
  generalize hncap : newCapacity cfg.maxSize (w.hdr c).cap request = ncap
  obtain ⟨hge, hle⟩ : request ≤ ncap ∧ ncap ≤ cfg.maxSize := by
    rw [← hncap]; exact newCapacity_bounds _ _ _ (by omega) (by omega)
  have hN : (w.hdr c).N < ncap := by have := hv.cap_ge; omega
  have hsz : (w.hdr c).size ≤ ncap := by have := hv.size_le; omega
  refine sat_bind (allocate_built_sat cfg c ncap _ w hv hl) (fun nb w2 h2 => ?_) (fun e w2 h => Strong.of_quiet hl h.2)
  obtain ⟨rfl, hb2, hraw2, hoth2⟩ := h2
  refine sat_bind (relocate_all_sat cfg c ncap w w2 hv hl hstrong hb2 hraw2 hoth2 hsz) (fun _ w4 h4 => ?_) (fun _ _ h => h)
  obtain ⟨hb4, hcopy4, hraw4⟩ := h4
  refine Res.sat_mono (switch_kept_sat cfg c ncap w w4 hv hl hb4 hN hle hsz hcopy4 hraw4) ?_ (fun _ _ h => h.elim)
  intro _ w' ⟨hk, hc', hd'⟩
  exact ⟨hk, by rw [hc']; exact hge, fun h => absurd h hfit, fun _ => ⟨hc', hd'⟩⟩

theorem wipe_bind_heap {β} (cfg : Cfg) (c : Nat) (k : Unit → M α β) (w : World α) (h : (w.hdr c).N < (w.hdr c).cap) :
    (wipe cfg c >>= k) w = (destroyRange cfg (w.hdr c).data 0 (w.hdr c).size >>= fun _ =>
                              deallocate (w.hdr c).alloc (w.hdr c).data (w.hdr c).cap >>= k) w := by
  have hw : wipe cfg c w = (destroyRange cfg (w.hdr c).data 0 (w.hdr c).size >>= fun _ =>
      deallocate (w.hdr c).alloc (w.hdr c).data (w.hdr c).cap) w := by
    unfold wipe
    rw [getV_bind, guard_wipe_0_eq, if_pos (decide_eq_true h)]
  exact (bind_congr_run hw k).trans (bind_assoc_run _ _ _ w)

theorem shrinkToSize_sat (cfg : Cfg) (c : Nat) (w : World α)
    (hv : VecOK cfg w c) (hl : Ledger w) (hNmax : (w.hdr c).N ≤ cfg.maxSize)
    (hstrong : movesFor cfg true = true → cfg.tMove = false) :
    (shrinkToSize cfg c w).sat
      (fun _ w' => Kept cfg w w' c ∧ (w'.hdr c).cap = max (w.hdr c).size (w.hdr c).N)
      (fun _ w' => Strong w w') := by
  unfold shrinkToSize
  rw [getV_bind, guard_shrinkToSize_0_eq]
  have hsl := hv.size_le
  have hcg := hv.cap_ge
  by_cases hnoop : (w.hdr c).N < (w.hdr c).cap ∧ (w.hdr c).size ≠ (w.hdr c).cap
  case neg =>
    -- inline, or no slack: nothing to do, and the capacity is max(size, N) already
    have hg : (!decide ((w.hdr c).N < (w.hdr c).cap) || decide ((w.hdr c).size = (w.hdr c).cap)) = true := by
      simp only [Bool.or_eq_true, Bool.not_eq_true', decide_eq_false_iff_not, decide_eq_true_eq]
      by_cases h1 : (w.hdr c).N < (w.hdr c).cap
      · exact Or.inr (Decidable.not_not.mp (fun h2 => hnoop ⟨h1, h2⟩))
      · exact Or.inl h1
    rw [if_pos hg]
    refine ⟨Kept.refl hv hl, ?_⟩
    by_cases h1 : (w.hdr c).N < (w.hdr c).cap
    · rw [Decidable.not_not.mp (fun h2 => hnoop ⟨h1, h2⟩)]; exact (Nat.max_eq_left hcg).symm
    · have h2 : (w.hdr c).cap = (w.hdr c).N := Nat.le_antisymm (Nat.not_lt.mp h1) hcg
      rw [h2] at hsl ⊢; exact (Nat.max_eq_right hsl).symm
  obtain ⟨hheap, hslack⟩ := hnoop
  rw [if_neg (by simp [hheap, hslack]), guard_shrinkToSize_1_eq]
  have hne : (w.hdr c).data ≠ (w.hdr c).inl := hv.heap_iff.mp hheap
  have hcapmax := hv.cap_le_max hNmax
  by_cases hbig : (w.hdr c).N < (w.hdr c).size
  · -- heap → smaller heap block of exactly `size` elements
    rw [if_pos (decide_eq_true hbig), bind_assoc_run]
    refine sat_bind (allocate_built_sat cfg c (w.hdr c).size _ w hv hl) (fun nb w2 h2 => ?_)
      (fun e w2 h => Strong.of_quiet hl h.2)
    obtain ⟨rfl, hb2, hraw2, hoth2⟩ := h2
    rw [pure_bind_run]
    simp only []
    rw [guard_shrinkToSize_2_eq, if_pos (decide_eq_true hbig)]
    refine sat_bind (relocate_all_sat cfg c (w.hdr c).size w w2 hv hl hstrong hb2 hraw2 hoth2 (Nat.le_refl _))
      (fun _ w4 h4 => ?_) (fun _ _ h => h)
    obtain ⟨hb4, hcopy4, hraw4⟩ := h4
    have hh4 : w4.hdr c = w.hdr c := by rw [hb4.hdr]
    have hrun := wipe_bind_heap cfg c (fun _ => setDataPtr c w.next >>= fun _ => setCapacity c (w.hdr c).size) w4
      (by rw [hh4]; exact hheap)
    rw [hh4] at hrun
    rw [← hrun]
    refine Res.sat_mono (switch_kept_sat cfg c _ w w4 hv hl hb4 hbig (by omega) (Nat.le_refl _) hcopy4 hraw4) ?_
      (fun _ _ h => h.elim)
    intro _ w' ⟨hk, hc', _⟩
    exact ⟨hk, by rw [hc']; exact (Nat.max_eq_left (Nat.le_of_lt hbig)).symm⟩
  · -- heap → back into the inline buffer
    rw [if_neg (by simpa using hbig), pure_bind_run]
    simp only []
    rw [guard_shrinkToSize_2_eq, if_neg (by simp)]
    obtain ⟨hilen, hiraw⟩ := hv.idle hne
    have hmv := uninitializedMove_sat cfg true (w.hdr c).data 0 (w.hdr c).size (w.hdr c).inl 0 w
      (fun k hk => by rw [Nat.zero_add]; exact hv.objs k hk) (fun k hk => by rw [Nat.zero_add]; exact hiraw k (by omega))
    refine sat_bind (Q := fun _ w1 => Relocated cfg true w w1 (w.hdr c).data 0 (w.hdr c).size (w.hdr c).inl 0)
      (E1 := fun _ w' => Strong w w') (sat_tryCatch hmv ?_) ?_ (fun _ _ h => h)
    · -- relocation threw: nothing to give back, the world is as before
      intro e w1 ⟨_, hf⟩
      rw [bind_run]
      show Strong w w1
      refine Strong.of_slots hl hf.ctl (fun b i => ?_)
      by_cases h1 : b = (w.hdr c).inl ∧ 0 ≤ i ∧ i < 0 + (w.hdr c).size
      · have a := hf.dst i (by omega)
        have b' := hiraw i (by omega)
        rw [Nat.zero_add, IsRaw] at a
        rw [h1.1, a, b']
      · by_cases h2 : b = (w.hdr c).data ∧ 0 ≤ i ∧ i < 0 + (w.hdr c).size
        · have := hf.kept (hf.nomove hstrong) i (by omega)
          rw [Nat.zero_add] at this
          rw [h2.1]; exact this
        · exact hf.rest b i h1 h2
    · intro _ w1 hr
      have hh1 : w1.hdr c = w.hdr c := by rw [hr.ctl.hdr]
      have hrun := wipe_bind_heap cfg c (fun _ => setDataPtr c (w.hdr c).inl >>= fun _ => setCapacity c (w.hdr c).N) w1
        (by rw [hh1]; exact hheap)
      rw [hh1] at hrun
      rw [← hrun]
      have hdata1 : ∀ i, ¬ i < (w.hdr c).size → (w1.mem (w.hdr c).data)[i]? = (w.mem (w.hdr c).data)[i]? := fun i h =>
        hr.rest _ i (fun h' => hne h'.1) (fun h' => by omega)
      have hwipe := wipe_sat_of cfg c w1
        (by rw [hh1]; exact fun i hi => by have := hr.src i hi; rwa [Nat.zero_add] at this)
        (by rw [hh1]; exact fun i h1 h2 => isRaw_of_eq (hdata1 i (Nat.not_lt.mpr h1)) (hv.raws i h1 h2))
        (by rw [hh1, hr.ctl.len]; exact hv.len)
        (by rw [hh1, hr.ctl.live, hr.ctl.owner]; exact fun _ => hv.heap hne)
      refine sat_bind hwipe (fun _ w5 hw => ?_) (fun _ _ h => h.elim)
      rw [setDataPtr_setCapacity_run, show w5.hdr c = w.hdr c by rw [hw.hdr, hr.ctl.hdr]]
      have hlive5 := hw.live
      have hdata5 := hw.data
      have hother5 := hw.other
      rw [hh1, if_pos hheap] at hlive5 hdata5
      rw [hh1] at hother5
      have hinl5 : ∀ i : Nat, (w5.mem (w.hdr c).inl)[i]? = (w1.mem (w.hdr c).inl)[i]? := fun i => by
        rw [hother5 _ (Ne.symm hne)]
      have hcopy5 : ∀ i, i < (w.hdr c).size → (w5.mem (w.hdr c).inl)[i]? = (w.mem (w.hdr c).data)[i]? := fun i hi => by
        have := hr.dst i hi
        rw [Nat.zero_add] at this
        rw [hinl5, this]
      obtain ⟨hvec, hled, hframe⟩ := toinline_ok cfg (n' := (w.hdr c).size)
        (w' := { w5 with hdr := upd w5.hdr c { w.hdr c with data := (w.hdr c).inl, cap := (w.hdr c).N } })
        (w.hdr c).alloc hv hl hheap (by omega)
        (by show upd w5.hdr c _ = _; rw [hw.hdr, hr.ctl.hdr])
        (hw.next.trans hr.ctl.next) (hw.ntmp.trans hr.ctl.ntmp) (by show w5.live = _; rw [hlive5, hr.ctl.live])
        (hw.owner.trans hr.ctl.owner)
        (fun b hb => by show (w5.mem b).length = _; rw [hother5 b hb, hr.ctl.len])
        (fun i hi => isObj_of_eq (w := w) (hcopy5 i hi) (hv.objs i hi))
        (fun i h1 h2 => isRaw_of_eq (w := w)
          ((hinl5 i).trans (hr.rest _ i (fun h' => by omega) (fun h' => hne h'.1.symm))) (hiraw i h2))
        hdata5
        (fun b h1 h2 => (hother5 b h1).trans (List.ext_getElem?
          (fun i => hr.rest b i (fun h' => h2 h'.1) (fun h' => h1 h'.1))))
      have hhc : ({ w5 with hdr := upd w5.hdr c { w.hdr c with data := (w.hdr c).inl, cap := (w.hdr c).N } } : World α).hdr c =
          { w.hdr c with data := (w.hdr c).inl, cap := (w.hdr c).N } := upd_same _ _ _
      refine ⟨⟨⟨hvec, hled, hw.ub.trans hr.ctl.ub, hframe⟩, fun xs hx => ⟨by rw [hhc]; exact hx.1, fun i hi => ?_⟩,
               by rw [hhc], by rw [hhc]⟩, by rw [hhc]; exact (Nat.max_eq_right (Nat.not_lt.mp hbig)).symm⟩
      rw [hhc]
      show (w5.mem (w.hdr c).inl)[i]? = _
      rw [hcopy5 i (hx.1 ▸ hi)]
      exact hx.2 i hi

end SvModel
