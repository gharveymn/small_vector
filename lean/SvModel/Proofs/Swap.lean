/-
swap, element-wise (`swap_elements`, hpp:4437-): the two containers exchange their contents slot by slot through a
temporary, the longer one's tail is move-constructed into the shorter one's buffer and destroyed, the sizes are exchanged.

Both containers change.  As for the element-wise move assignment the outcome is factorised through a fictitious
intermediate world `mid w w' o no` in which only `o` has its final state (block contents and size), so that the system
invariant follows from two applications of `SysOK.step`.
-/
import SvModel.Proofs.SwapSpec
import SvModel.Proofs.MoveAssign
import SvModel.Proofs.Handover

namespace SvModel
open Gen
variable {α : Type}

theorem swapSize_run (c o : Nat) (hoc : o ≠ c) (w : World α) :
    swapSize c o w = .ok () { w with hdr := upd (upd w.hdr c { w.hdr c with size := (w.hdr o).size }) o { w.hdr o with size := (w.hdr c).size } } :=
  modV2_run c o hoc (fun v => { v with size := (w.hdr o).size }) (fun v => { v with size := (w.hdr c).size }) w

theorem swapElements_sat (cfg : Cfg) (c o : Nat) (w : World α)
    (hv : VecOK cfg w c) (hl : Ledger w) (hvo : VecOK cfg w o) (hco : c ≠ o)
    (hle : (w.hdr c).size ≤ (w.hdr o).size) (hfit : (w.hdr o).size ≤ (w.hdr c).cap)
    (hd : (w.hdr o).data ≠ (w.hdr c).data) (hi : (w.hdr o).data ≠ (w.hdr c).inl) :
    (swapElements cfg c o w).sat
      (fun _ w' => Basic cfg w (mid w w' o (w.hdr c).size) o ∧ Basic cfg (mid w w' o (w.hdr c).size) w' c ∧
          w'.hdr c = { w.hdr c with size := (w.hdr o).size } ∧ w'.hdr o = { w.hdr o with size := (w.hdr c).size } ∧
          (∀ k, k < (w.hdr o).size → (w'.mem (w.hdr c).data)[k]? = (w.mem (w.hdr o).data)[k]?) ∧
          (∀ k, k < (w.hdr c).size → (w'.mem (w.hdr o).data)[k]? = (w.mem (w.hdr c).data)[k]?) ∧
          w'.live = w.live ∧ w'.next = w.next)
      (fun e w' => e = .elem ∧ Basic cfg w (mid w w' o (w.hdr o).size) o ∧ Basic cfg (mid w w' o (w.hdr o).size) w' c ∧
          w'.hdr = w.hdr ∧ w'.live = w.live ∧ w'.next = w.next) := by
  have hoc : o ≠ c := fun e => hco e.symm
  have hcls_c := hv.data_kind hl
  have hcls_o := hvo.data_kind hl
  have hcap_o : (w.hdr o).size ≤ (w.hdr o).cap := hvo.size_le
  have hcap_c : (w.hdr c).size ≤ (w.hdr c).cap := hv.size_le
  have hcapraw : ∀ i, (w.hdr c).size ≤ i → i < (w.hdr c).cap → IsRaw w (w.hdr c).data i := hv.raws
  have horaw0 : ∀ i, (w.hdr o).size ≤ i → i < (w.hdr o).cap → IsRaw w (w.hdr o).data i := hvo.raws
  generalize hcd : (w.hdr c).data = cd at *
  generalize hod : (w.hdr o).data = od at *
  generalize hcs : (w.hdr c).size = cs at *
  generalize hos : (w.hdr o).size = os at *
  have hcobj : ∀ i, i < cs → IsObj w cd i := fun i hi' => by rw [← hcd]; exact hv.objs i (by rw [hcs]; exact hi')
  have hoobj : ∀ i, i < os → IsObj w od i := fun i hi' => by rw [← hod]; exact hvo.objs i (by rw [hos]; exact hi')
  have hself : upd (upd w.hdr o { w.hdr o with size := os }) c { w.hdr c with size := cs } = w.hdr := by
    rw [← hos, ← hcs]
    have e1 : ({ w.hdr o with size := (w.hdr o).size } : Vec) = w.hdr o := rfl
    have e2 : ({ w.hdr c with size := (w.hdr c).size } : Vec) = w.hdr c := rfl
    rw [e1, e2, upd_self, upd_self]
  have failed : ∀ (w' : World α), Ctl0 w w' → w'.hdr = w.hdr →
      (∀ i, i < cs → IsObj w' cd i) → (∀ i, cs ≤ i → i < (w.hdr c).cap → IsRaw w' cd i) →
      (∀ i, i < os → IsObj w' od i) → (∀ i, os ≤ i → (w'.mem od)[i]? = (w.mem od)[i]?) →
      (∀ (b i : Nat), b ≠ cd → b ≠ od → (b % 2 = 1 ∨ b < 5) → (w'.mem b)[i]? = (w.mem b)[i]?) →
      Basic cfg w (mid w w' o os) o ∧ Basic cfg (mid w w' o os) w' c := by
    intro w' hc hh a1 a2 a3 a4 a5
    exact two_inplace cfg (w' := w') (nc := cs) (no := os) hv hvo hl hco (by rw [hod, hcd]; exact hd) (by rw [hod]; exact hi) hc
      (by rw [hh]; exact hself.symm) hcap_c hcap_o (by rw [hcd]; exact a1) (by rw [hcd]; exact a2) (by rw [hod]; exact a3)
      (by rw [hod]; intro i x y; exact isRaw_of_eq (a4 i x) (horaw0 i x y)) (by rw [hcd, hod]; exact a5)
  unfold swapElements
  rw [getV_bind, getV_bind]
  simp only [hcd, hod, hcs, hos]
  refine sat_bind (swapRows_sat cfg cd od (Ne.symm hd) cs w hl hcls_c hcls_o hcobj (fun i hi' => hoobj i (Nat.lt_of_lt_of_le hi' hle)))
    (fun _ w1 ⟨⟨hc1, hh1, hk1⟩, hx1, hy1⟩ => ?swapped) (fun e w1 ⟨he, ⟨hc1, hh1, hk1⟩, ho1, ho2⟩ => ?thrown)
  case thrown =>
    obtain ⟨b1, b2⟩ := failed w1 hc1 hh1 ho1 (fun i x y => isRaw_of_eq (hk1 cd i hcls_c (Or.inr x)) (hcapraw i x y))
      (fun i hi' => by
        by_cases h : i < cs
        · exact ho2 i h
        · exact isObj_of_eq (hk1 od i hcls_o (Or.inr (Nat.le_of_not_lt h))) (hoobj i hi'))
      (fun i hi' => hk1 od i hcls_o (Or.inr (Nat.le_trans hle hi')))
      (fun b i x y z => hk1 b i z (Or.inl ⟨x, y⟩))
    exact ⟨he, b1, b2, hh1, hc1.live, hc1.next⟩
  have hpre_c : ∀ i, i < cs → IsObj w1 cd i := fun i hi' => isObj_of_eq (hx1 i hi') (hoobj i (Nat.lt_of_lt_of_le hi' hle))
  have hpre_o : ∀ i, i < cs → IsObj w1 od i := fun i hi' => isObj_of_eq (hy1 i hi') (hcobj i hi')
  rw [← bind_assoc_run]
  refine sat_bind (relocate_then_destroy_sat cfg od cd cs os w1
      (fun i x y => isObj_of_eq (hk1 od i hcls_o (Or.inr x)) (hoobj i y))
      (fun i x y => isRaw_of_eq (hk1 cd i hcls_c (Or.inr x)) (hcapraw i x (Nat.lt_of_lt_of_le y hfit))))
    (fun _ w3 ⟨hm, hdst, hsrc⟩ => ?moved) (fun e w2 ⟨he, hf2, hdst2, hsrc2⟩ => ?failed2)
  case failed2 =>
    have hc2 : Ctl0 w w2 := hc1.trans hf2.ctl.to0
    obtain ⟨b1, b2⟩ := failed w2 hc2 (hf2.ctl.hdr.trans hh1)
      (fun i hi' => isObj_of_eq (hf2.rest cd i (Or.inr (Or.inl hi'))) (hpre_c i hi'))
      (fun i x y => by
        by_cases h : i < os
        · exact hdst2 i x h
        · exact isRaw_of_eq ((hf2.rest cd i (Or.inr (Or.inr (Nat.le_of_not_lt h)))).trans (hk1 cd i hcls_c (Or.inr x))) (hcapraw i x y))
      (fun i hi' => by
        by_cases h : i < cs
        · exact isObj_of_eq (hf2.rest od i (Or.inr (Or.inl h))) (hpre_o i h)
        · exact hsrc2 i (Nat.le_of_not_lt h) hi')
      (fun i x => (hf2.rest od i (Or.inr (Or.inr x))).trans (hk1 od i hcls_o (Or.inr (Nat.le_trans hle x))))
      (fun b i x y z => (hf2.rest b i (Or.inl ⟨x, y⟩)).trans (hk1 b i z (Or.inl ⟨x, y⟩)))
    exact ⟨he, b1, b2, hf2.ctl.hdr.trans hh1, hc2.live, hc2.next⟩
  have hc3 : Ctl0 w w3 := hc1.trans hm.ctl.to0
  rw [swapSize_run c o hoc, hm.ctl.hdr.trans hh1, hos, hcs, upd_comm _ hco]
  have hval_c : ∀ k, k < os → (w3.mem cd)[k]? = (w.mem od)[k]? := fun k hk => by
    by_cases h : k < cs
    · exact (hm.rest cd k (Or.inr (Or.inl h))).trans (hx1 k h)
    · exact (hdst k (Nat.le_of_not_lt h) hk).trans (hk1 od k hcls_o (Or.inr (Nat.le_of_not_lt h)))
  have hval_o : ∀ k, k < cs → (w3.mem od)[k]? = (w.mem cd)[k]? := fun k hk => (hm.rest od k (Or.inr (Or.inl hk))).trans (hy1 k hk)
  obtain ⟨hb1, hb2⟩ := two_inplace cfg (w' := { w3 with hdr := upd (upd w.hdr o { w.hdr o with size := cs }) c { w.hdr c with size := os } })
    (nc := os) (no := cs) hv hvo hl hco (by rw [hod, hcd]; exact hd) (by rw [hod]; exact hi) (hc3.with_hdr _) rfl hfit (Nat.le_trans hle hcap_o)
    (by rw [hcd]; exact fun i hi' => isObj_of_eq (hval_c i hi') (hoobj i hi'))
    (by
      rw [hcd]; intro i x y
      exact isRaw_of_eq ((hm.rest cd i (Or.inr (Or.inr x))).trans (hk1 cd i hcls_c (Or.inr (Nat.le_trans hle x)))) (hcapraw i (Nat.le_trans hle x) y))
    (by rw [hod]; exact fun i hi' => isObj_of_eq (hval_o i hi') (hcobj i hi'))
    (by
      rw [hod]; intro i x y
      by_cases h : i < os
      · exact hsrc i x h
      · exact isRaw_of_eq ((hm.rest od i (Or.inr (Or.inr (Nat.le_of_not_lt h)))).trans (hk1 od i hcls_o (Or.inr x))) (horaw0 i (Nat.le_of_not_lt h) y))
    (by rw [hcd, hod]; exact fun b i x y z => (hm.rest b i (Or.inl ⟨x, y⟩)).trans (hk1 b i z (Or.inl ⟨x, y⟩)))
  exact ⟨hb1, hb2, (upd_same _ _ _).trans (by subst hcd; rfl), ((upd_other _ _ _ _ hoc).trans (upd_same _ _ _)).trans (by subst hod; rfl),
    hval_c, hval_o, hc3.live, hc3.next⟩

end SvModel
