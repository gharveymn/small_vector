/-
Element-wise move assignment (in-place paths) inside a system of containers: `SysAll.moveAssignInPlace`.
-/
import SvModel.Proofs.MoveAssign
import SvModel.Proofs.CopyAssign

namespace SvModel
open Gen
variable {α : Type}

/-- ELEMENT-WISE MOVE ASSIGNMENT, in place, in a system: any model program of the shape
    `move_assign_in_place; set_size; set allocator` (the three non-stealing, non-reallocating paths have this shape) -/
theorem SysAll.moveAssignInPlace {cfg : Cfg} {w : World α} {U A : List Nat} {c o : Nat} (hs : SysAll cfg w U A)
    (hc : c ∈ A) (ho : o ∈ A) (hoc : o ≠ c) (hfit : (w.hdr o).size ≤ (w.hdr c).cap) (a' : Nat)
    (hok : (w.hdr c).data = (w.hdr c).inl ∨ a' = (w.hdr c).alloc) :
    ((SvModel.moveAssignInPlace cfg c (w.hdr c) (w.hdr o) (decide ((w.hdr c).size < (w.hdr o).size)) >>= fun _ =>
        setSize c (w.hdr o).size >>= fun _ => SvModel.setAlloc c a') w).sat
      (fun _ w' => SysAll cfg w' U A ∧ (∀ xs, Holds w o xs → Holds w' c xs) ∧ (∃ ys, Holds w' o ys) ∧ w'.hdr o = w.hdr o ∧
          (w'.hdr c).data = (w.hdr c).data ∧ (w'.hdr c).cap = (w.hdr c).cap ∧ w'.live = w.live ∧ w'.next = w.next ∧
          ∀ d ∈ A, d ≠ c → d ≠ o → ∀ xs, Holds w d xs → Holds w' d xs)
      (fun _ w' => SysAll cfg w' U A ∧ (∃ ys, Holds w' o ys) ∧ (∃ zs, Holds w' c zs) ∧ w'.live = w.live ∧
          ∀ d ∈ A, d ≠ c → d ≠ o → ∀ xs, Holds w d xs → Holds w' d xs) := by
  have hvc := hs.ok.vec c hc
  have hvo := hs.ok.vec o ho
  have hl := hs.ok.led
  rw [← bind_assoc_run]
  by_cases hz : (w.hdr o).size = 0
  ·
    have hprog : (SvModel.moveAssignInPlace cfg c (w.hdr c) (w.hdr o) (decide ((w.hdr c).size < (w.hdr o).size)) >>= fun _ => setSize c (w.hdr o).size) w
        = eraseAll cfg c w := by
      unfold SvModel.moveAssignInPlace eraseAll
      rw [hz]
      simp only [Nat.not_lt_zero, decide_false, Bool.false_eq_true, if_false, Nat.sub_zero]
      have hnil : (srcsMove (w.hdr o).data 0 0 : List (Src α)) = [] := by simp [srcsMove]
      rw [hnil]
      have hpure : (assignGen cfg (w.hdr c).data 0 ([] : List (Src α)) >>= fun _ => destroyRange cfg (w.hdr c).data 0 (w.hdr c).size)
          = destroyRange cfg (w.hdr c).data 0 (w.hdr c).size := by
        funext x; rfl
      rw [hpure, destroy_then_setSize]
      rw [bind_run (m := getV c), getV_run]
    have her := eraseAll_sat cfg c w hvc hl
    rw [← hprog] at her
    refine sat_bind her (fun _ w1 her => ?_) (fun _ _ h => h.elim)
    rw [setAlloc_run]
    have hs1 := hs.step hc her.basic
    have hoth : ∀ d ∈ A, d ≠ c → ∀ xs, Holds w d xs →
        Holds ({ w1 with hdr := upd w1.hdr c { w1.hdr c with alloc := a' } } : World α) d xs :=
      fun d hd' hdc xs hx => (hs.ok.holds_other hc her.basic hd' hdc hx).setAlloc c a'
    obtain ⟨yo, hyo⟩ := hvo.holds_exists
    refine ⟨hs1.setAlloc hc a' (by rw [her.data, her.alloc, her.basic.frame.hdr_inl]; exact hok), fun xs hx => ?_,
      ⟨yo, hoth o ho hoc yo hyo⟩, ?_, ?_, ?_, her.noalloc.2, her.noalloc.1, fun d hd' hdc _ => hoth d hd' hdc⟩
    · obtain ⟨yc, hyc⟩ := hvc.holds_exists
      rw [hx.eq_nil hz]; exact (her.holds yc hyc).setAlloc c a'
    · show upd w1.hdr c _ o = _; rw [upd_other _ _ _ _ hoc, her.basic.frame.hdr_other o hoc]
    · show (upd w1.hdr c _ c).data = _; rw [upd_same]; exact her.data
    · show (upd w1.hdr c _ c).cap = _; rw [upd_same]; exact her.cap
  obtain ⟨hd, hi⟩ := hs.ok.apart hc ho hoc hz
  refine sat_bind (moveAssignInPlace_sat cfg c o w hvc hl hvo hfit hd hi) (fun _ w1 ⟨hb1, hb2, hhc1, hval1, hlv1, hn1⟩ => ?_)
    (fun e w1 ⟨hb1, hb2, hhc1, hlv1, hn1⟩ => ?_)
  ·
    obtain ⟨hs1, _, ⟨ys, hy⟩, hoth⟩ := hs.two_steps hc ho hb1 hb2
    rw [setAlloc_run]
    have hho1 : w1.hdr o = w.hdr o := by rw [hb2.frame.hdr_other o hoc]; rfl
    refine ⟨hs1.setAlloc hc a' (by rw [hhc1]; exact hok), fun xs hx => ?_, ⟨ys, hy.setAlloc c a'⟩, ?_, ?_, ?_, hlv1, hn1,
      fun d hd' hdc hdo xs hx => (hoth d hd' hdc hdo xs hx).setAlloc c a'⟩
    · refine Holds.setAlloc ⟨by rw [hhc1]; exact hx.1, fun i hi' => ?_⟩ c a'
      rw [hhc1]; show (w1.mem (w.hdr c).data)[i]? = _
      rw [hval1 i (by rw [← hx.1]; exact hi'), hx.2 i hi']
    · show upd w1.hdr c _ o = _; rw [upd_other _ _ _ _ hoc, hho1]
    · show (upd w1.hdr c _ c).data = _; rw [upd_same, hhc1]
    · show (upd w1.hdr c _ c).cap = _; rw [upd_same, hhc1]
  ·
    obtain ⟨hs1, hzc, hyo, hoth⟩ := hs.two_steps hc ho hb1 hb2
    exact ⟨hs1, hyo, hzc, hlv1, hoth⟩

end SvModel
