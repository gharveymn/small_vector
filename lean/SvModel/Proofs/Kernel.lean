/-
Specifications of the storage-management building blocks: allocate / deallocate, wipe / reset_data, and the two lemmas
that re-establish `VecOK` / `Ledger` / `Frame1` after an in-place change (`inplace_ok`) and after a reallocation
(`realloc_ok_alloc`).  `Strong` and `Basic` are the two exception guarantees.  `BuiltA` is the state of a reallocating
path between `allocate` and `reset_data`; its lemmas carry it through construction and relocation steps
(`step_new`, `reloc_sat`), roll it back (`abort_realloc*`) or complete it (`finish_realloc*`).
-/
import SvModel.Proofs.Hdr
import SvModel.Proofs.GuardEqs

namespace SvModel
open Gen
variable {α : Type}

theorem allocate_sat (cfg : Cfg) (a n : Nat) (w : World α) :
    (allocate cfg a n w).sat
      (fun nb w' => nb = w.next ∧ w'.mem = upd w.mem w.next (List.replicate n .raw) ∧ w'.owner = upd w.owner w.next a ∧
                    w'.live = w.next :: w.live ∧ w'.next = w.next + 2 ∧ w'.hdr = w.hdr ∧ w'.ntmp = w.ntmp ∧ w'.ub = w.ub)
      (fun e w' => e = .alloc ∧ Quiet w w') := by
  unfold allocate
  refine sat_bind (tick_sat _ _ w) (fun _ w1 hq => ?_) (fun e w1 h => ⟨h.1.1, h.2⟩)
  obtain ⟨hm, hc⟩ := hq
  show w1.next = w.next ∧ _
  refine ⟨hc.next, ?_, ?_, ?_, ?_, hc.hdr, hc.ntmp, hc.ub⟩
  · show upd w1.mem w1.next _ = _; rw [hm, hc.next]
  · show upd w1.owner w1.next a = _; rw [hc.owner, hc.next]
  · show w1.next :: w1.live = _; rw [hc.live, hc.next]
  · show w1.next + 2 = _; rw [hc.next]

theorem all_isRaw_of {l : List (Slot α)} (h : ∀ i, i < l.length → l[i]? = some .raw) : l.all Slot.isRaw = true := by
  rw [List.all_eq_true]
  intro x hx
  obtain ⟨i, hi, rfl⟩ := List.getElem_of_mem hx
  have := h i hi
  rw [List.getElem?_eq_getElem hi] at this
  injection this with this; rw [this]; rfl

theorem deallocate_run (a blk n : Nat) (w : World α) (h1 : blk ∈ w.live) (h2 : (w.mem blk).length = n)
    (h3 : ∀ i, i < n → IsRaw w blk i) (h4 : w.owner blk = a) :
    deallocate a blk n w = .ok () { w with mem := upd w.mem blk [], live := w.live.erase blk,
                                           trace := w.trace ++ [.dealloc blk n a] } := by
  unfold deallocate
  have : (w.mem blk).all Slot.isRaw = true := all_isRaw_of (fun i hi => h3 i (by omega))
  simp [h1, h2, this, h4]

/-- releasing a live, all-raw block: it becomes empty and leaves the ledger; nothing else changes -/
theorem deallocate_ok (a blk n : Nat) (w : World α) (h1 : blk ∈ w.live) (h2 : (w.mem blk).length = n)
    (h3 : ∀ i, i < n → IsRaw w blk i) (h4 : w.owner blk = a) :
    ∃ w', deallocate a blk n w = .ok () w' ∧ w'.hdr = w.hdr ∧ w'.owner = w.owner ∧ w'.ub = w.ub ∧ w'.ntmp = w.ntmp ∧
      w'.next = w.next ∧ w'.live = w.live.erase blk ∧ w'.mem blk = [] ∧ ∀ b, b ≠ blk → w'.mem b = w.mem b :=
  ⟨_, deallocate_run a blk n w h1 h2 h3 h4, rfl, rfl, rfl, rfl, rfl, rfl, upd_same _ _ _, fun _ hb => upd_other _ _ _ _ hb⟩

theorem deallocate_nothrow (a blk n : Nat) : NoThrow (deallocate a blk n : M α Unit) := by
  intro w; unfold deallocate; split <;> exact ⟨_, _, rfl⟩

structure Wiped (w w' : World α) (c : Nat) : Prop where
  hdr   : w'.hdr = w.hdr
  owner : w'.owner = w.owner
  next  : w'.next = w.next
  ntmp  : w'.ntmp = w.ntmp
  ub    : w'.ub = w.ub
  live  : w'.live = if (w.hdr c).N < (w.hdr c).cap then w.live.erase (w.hdr c).data else w.live
  data  : if (w.hdr c).N < (w.hdr c).cap then w'.mem (w.hdr c).data = []
          else (w'.mem (w.hdr c).data).length = (w.hdr c).cap ∧ ∀ i, i < (w.hdr c).cap → IsRaw w' (w.hdr c).data i
  other : ∀ b, b ≠ (w.hdr c).data → w'.mem b = w.mem b

/-- `wipe` only needs the shape of the data block and, for a heap block, that it is live and owned by the allocator
    of `c` (the inline buffer may be in use already: shrink_to_fit back into it) -/
theorem wipe_sat_of (cfg : Cfg) (c : Nat) (w : World α)
    (hobjs : ∀ i, i < (w.hdr c).size → IsObj w (w.hdr c).data i)
    (hraws : ∀ i, (w.hdr c).size ≤ i → i < (w.hdr c).cap → IsRaw w (w.hdr c).data i)
    (hlen : (w.mem (w.hdr c).data).length = (w.hdr c).cap)
    (hheap : (w.hdr c).N < (w.hdr c).cap → (w.hdr c).data ∈ w.live ∧ w.owner (w.hdr c).data = (w.hdr c).alloc) :
    (wipe cfg c w).sat (fun _ w' => Wiped w w' c) (fun _ _ => False) := by
  unfold wipe
  rw [getV_bind]
  refine sat_bind (destroyRange_sat cfg (w.hdr c).data (w.hdr c).size 0 w
    (fun i _ hi => hobjs i (by omega))) (fun _ w1 h1 => ?_) (fun _ _ h => h)
  obtain ⟨hc1, hr1, hrest1⟩ := h1
  have hraw1 : ∀ i, i < (w.hdr c).cap → IsRaw w1 (w.hdr c).data i := by
    intro i hi
    by_cases h : i < (w.hdr c).size
    · exact hr1 i (Nat.zero_le _) (by omega)
    · exact isRaw_of_eq (hrest1 _ i (fun h' => by omega)) (hraws i (Nat.not_lt.mp h) hi)
  have hother1 : ∀ b, b ≠ (w.hdr c).data → w1.mem b = w.mem b := fun b hb =>
    List.ext_getElem? (fun i => hrest1 b i (fun h => hb h.1))
  rw [guard_wipe_0_eq]
  by_cases hcap : (w.hdr c).N < (w.hdr c).cap
  · rw [if_pos (decide_eq_true hcap)]
    obtain ⟨hlive, hown⟩ := hheap hcap
    rw [deallocate_run _ _ _ w1 (by rw [hc1.live]; exact hlive) (by rw [hc1.len, hlen]) hraw1 (by rw [hc1.owner]; exact hown)]
    refine ⟨hc1.hdr, hc1.owner, hc1.next, hc1.ntmp, hc1.ub, ?_, ?_, ?_⟩
    · rw [if_pos hcap]; show w1.live.erase _ = _; rw [hc1.live]
    · rw [if_pos hcap]; exact upd_same _ _ _
    · intro b hb; show upd w1.mem _ [] b = _; rw [upd_other _ _ _ _ hb]; exact hother1 b hb
  · rw [if_neg (by simpa using hcap)]
    refine ⟨hc1.hdr, hc1.owner, hc1.next, hc1.ntmp, hc1.ub, ?_, ?_, hother1⟩
    · rw [if_neg hcap]; exact hc1.live
    · rw [if_neg hcap]; exact ⟨by rw [hc1.len, hlen], hraw1⟩

theorem wipe_sat (cfg : Cfg) (c : Nat) (w : World α) (hv : VecOK cfg w c) :
    (wipe cfg c w).sat (fun _ w' => Wiped w w' c) (fun _ _ => False) :=
  wipe_sat_of cfg c w hv.objs hv.raws hv.len (fun h => hv.heap (hv.heap_iff.mp h))

/-- the world after an operation that threw is observably the one before it: same headers, same ledger, same contents
    of every block that existed (a block allocated and released inside the operation is gone again) -/
structure Strong (w w' : World α) : Prop where
  hdr   : w'.hdr = w.hdr
  live  : w'.live = w.live
  ub    : w'.ub = w.ub
  owner : ∀ b, b < w.next → w'.owner b = w.owner b
  mem   : ∀ b, b < w.next → b % 2 = 1 ∨ b < 5 → w'.mem b = w.mem b
  next  : w.next ≤ w'.next
  led   : Ledger w'

theorem Strong.of_quiet {w w' : World α} (hl : Ledger w) (h : Quiet w w') : Strong w w' :=
  ⟨h.2.hdr, h.2.live, h.2.ub, fun b _ => by rw [h.2.owner], fun b _ _ => by rw [h.1], by rw [h.2.next]; exact Nat.le_refl _,
   hl.of_ctl h.2⟩

theorem Strong.of_slots {w w' : World α} (hl : Ledger w) (hc : Ctl w w')
    (h : ∀ (b i : Nat), (w'.mem b)[i]? = (w.mem b)[i]?) : Strong w w' :=
  ⟨hc.hdr, hc.live, hc.ub, fun b _ => by rw [hc.owner], fun b _ _ => List.ext_getElem? (h b),
   by rw [hc.next]; exact Nat.le_refl _, hl.of_ctl hc⟩

theorem Strong.refl {w : World α} (hl : Ledger w) : Strong w w := Strong.of_quiet hl (Quiet.refl w)

theorem Strong.mem_data {cfg : Cfg} {w w' : World α} {c : Nat} (hs : Strong w w') (hl : Ledger w) (h : VecOK cfg w c) :
    w'.mem (w.hdr c).data = w.mem (w.hdr c).data :=
  hs.mem _ (h.data_lt_next hl) (h.data_kind hl)

theorem Strong.vecOK {cfg : Cfg} {w w' : World α} {c : Nat} (hs : Strong w w') (hl : Ledger w) (h : VecOK cfg w c) : VecOK cfg w' c := by
  have hd := hs.mem_data hl h
  have hinl : w'.mem (w.hdr c).inl = w.mem (w.hdr c).inl :=
    hs.mem _ (Nat.lt_of_lt_of_le h.inl_lt hl.next_ok.2) (Or.inr h.inl_lt)
  refine h.transfer (by rw [hs.hdr]) (by rw [hd]) ?_ ?_ ?_ ?_
  · intro i hi; unfold IsObj; rw [hd]; exact h.objs i hi
  · intro i h1 h2; unfold IsRaw; rw [hd]; exact h.raws i h1 h2
  · intro hne
    obtain ⟨h1, h2⟩ := h.heap hne
    refine ⟨by rw [hs.live]; exact h1, ?_⟩
    rw [hs.owner _ (h.data_lt_next hl)]; exact h2
  · intro hne
    obtain ⟨h1, h2⟩ := h.idle hne
    exact ⟨by rw [hinl]; exact h1, fun i hi => by unfold IsRaw; rw [hinl]; exact h2 i hi⟩

theorem Strong.holds {cfg : Cfg} {w w' : World α} {c : Nat} {xs : List (Val α)} (hs : Strong w w') (hl : Ledger w)
    (h : VecOK cfg w c) (hx : Holds w c xs) : Holds w' c xs := by
  refine ⟨by rw [hs.hdr]; exact hx.1, fun i hi => ?_⟩
  rw [hs.hdr, hs.mem_data hl h]; exact hx.2 i hi

theorem inplace_ok (cfg : Cfg) {w w' : World α} {c n' : Nat} (hv : VecOK cfg w c) (hl : Ledger w)
    (hc : Ctl0 w w')
    (hh : w'.hdr = upd w.hdr c { w.hdr c with size := n' })
    (hn : n' ≤ (w.hdr c).cap)
    (hobj : ∀ i, i < n' → IsObj w' (w.hdr c).data i)
    (hraw : ∀ i, n' ≤ i → i < (w.hdr c).cap → IsRaw w' (w.hdr c).data i)
    (hrest : ∀ (b i : Nat), b ≠ (w.hdr c).data → (b % 2 = 1 ∨ b < 5) → (w'.mem b)[i]? = (w.mem b)[i]?) :
    VecOK cfg w' c ∧ Ledger w' ∧ Frame1 w w' c := by
  have hhc : w'.hdr c = { w.hdr c with size := n' } := by rw [hh]; exact upd_same _ _ _
  have hlen : ∀ b, b % 2 = 1 ∨ b < 5 → (w'.mem b).length = (w.mem b).length := fun b h =>
    hc.len b (h.elim Or.inl (fun h => Or.inr (Or.inl (Nat.lt_succ_of_lt h))))
  refine ⟨?_, hl.of_ctl0 hc, ?_⟩
  · refine ⟨?size_le, ?cap_ge, ?cap_max, ?inl_iff, ?inl_lt, ?len, ?objs, ?raws, ?heap, ?idle⟩ <;> rw [hhc]
    case size_le => exact hn
    case cap_ge => exact hv.cap_ge
    case cap_max => exact hv.cap_max
    case inl_iff => exact hv.inl_iff
    case inl_lt => exact hv.inl_lt
    case len => exact (hlen _ (hv.data_kind hl)).trans hv.len
    case objs => exact hobj
    case raws => exact hraw
    case heap => intro hne; rw [hc.live, hc.owner]; exact hv.heap hne
    case idle =>
      intro hne
      obtain ⟨h1, h2⟩ := hv.idle hne
      exact ⟨(hlen _ (Or.inr hv.inl_lt)).trans h1,
             fun i hi => isRaw_of_eq (hrest _ i (Ne.symm hne) (Or.inr hv.inl_lt)) (h2 i hi)⟩
  · refine ⟨fun d hd => by rw [hh, upd_other _ _ _ _ hd], by rw [hhc], by rw [hhc], ?_, fun b _ => by rw [hc.owner],
            by rw [hc.next]; exact Nat.le_refl _, Or.inl (by rw [hhc]), LiveAcc.of_same hl hv hc.live (by rw [hhc])⟩
    intro b h1 _ _ h4
    exact List.ext_getElem? (fun i => hrest b i h1 h4)

theorem realloc_ok_alloc (cfg : Cfg) {w w' : World α} {c ncap n' : Nat} (a' : Nat) (hv : VecOK cfg w c) (hl : Ledger w)
    (hN : (w.hdr c).N < ncap) (hmax : ncap ≤ cfg.maxSize) (hn : n' ≤ ncap)
    (hh : w'.hdr = upd w.hdr c { w.hdr c with data := w.next, cap := ncap, size := n', alloc := a' })
    (hnext : w'.next = w.next + 2) (hntmp : w'.ntmp = w.ntmp)
    (hlive : w'.live = if (w.hdr c).N < (w.hdr c).cap then (w.next :: w.live).erase (w.hdr c).data else w.next :: w.live)
    (howner : w'.owner = upd w.owner w.next a')
    (hlen : (w'.mem w.next).length = ncap)
    (hobj : ∀ i, i < n' → IsObj w' w.next i)
    (hraw : ∀ i, n' ≤ i → i < ncap → IsRaw w' w.next i)
    (hold : if (w.hdr c).N < (w.hdr c).cap then w'.mem (w.hdr c).data = []
            else (w'.mem (w.hdr c).data).length = (w.hdr c).cap ∧ ∀ i, i < (w.hdr c).cap → IsRaw w' (w.hdr c).data i)
    (hother : ∀ b, b ≠ (w.hdr c).data → b ≠ w.next → w'.mem b = w.mem b) :
    VecOK cfg w' c ∧ Ledger w' ∧ Frame1 w w' c := by
  have hhc : w'.hdr c = { w.hdr c with data := w.next, cap := ncap, size := n', alloc := a' } := by
    rw [hh]; exact upd_same _ _ _
  obtain ⟨hnd, hni⟩ := hv.next_ne hl
  have hfresh : w.next ∉ w.live := fun h => Nat.lt_irrefl _ (hl.live_ok _ h).2.2
  have hmem : ∀ b, b ∈ w'.live ↔ (b = w.next ∨ b ∈ w.live) ∧ ¬ ((w.hdr c).N < (w.hdr c).cap ∧ b = (w.hdr c).data) := by
    intro b
    rw [hlive]
    by_cases hcap : (w.hdr c).N < (w.hdr c).cap
    · rw [if_pos hcap, (List.nodup_cons.mpr ⟨hfresh, hl.nodup⟩).mem_erase_iff, List.mem_cons]
      exact ⟨fun h => ⟨h.2, fun h' => h.1 h'.2⟩, fun h => ⟨fun e => h.2 ⟨hcap, e⟩, h.1⟩⟩
    · rw [if_neg hcap, List.mem_cons]
      exact ⟨fun h => ⟨h, fun h' => hcap h'.1⟩, fun h => h.1⟩
  refine ⟨?_, ?_, ?_⟩
  · refine ⟨?size_le, ?cap_ge, ?cap_max, ?inl_iff, ?inl_lt, ?len, ?objs, ?raws, ?heap, ?idle⟩ <;> rw [hhc]
    case size_le => exact hn
    case cap_ge => exact Nat.le_of_lt hN
    case cap_max => exact Nat.le_trans hmax (Nat.le_max_left _ _)
    case inl_iff => exact ⟨fun h => absurd h (Nat.ne_of_gt hN), fun h => absurd h hni⟩
    case inl_lt => exact hv.inl_lt
    case len => exact hlen
    case objs => exact hobj
    case raws => exact hraw
    case heap =>
      intro _
      exact ⟨(hmem _).mpr ⟨Or.inl rfl, fun h => hnd h.2⟩, by rw [howner]; exact upd_same _ _ _⟩
    case idle =>
      intro _
      show (w'.mem (w.hdr c).inl).length = (w.hdr c).N ∧ ∀ i, i < (w.hdr c).N → IsRaw w' (w.hdr c).inl i
      by_cases hcap : (w.hdr c).N < (w.hdr c).cap
      · -- the old buffer was a heap block: the inline buffer was idle before and is untouched
        have hne := hv.heap_iff.mp hcap
        obtain ⟨h1, h2⟩ := hv.idle hne
        have hm : w'.mem (w.hdr c).inl = w.mem (w.hdr c).inl := hother _ (Ne.symm hne) (Ne.symm hni)
        exact ⟨by rw [hm]; exact h1, fun i hi => by unfold IsRaw; rw [hm]; exact h2 i hi⟩
      · -- the old buffer was the inline buffer: it was wiped
        have he := hv.inline_of_not_heap hcap
        rw [if_neg hcap] at hold
        rw [← he, ← hv.inl_iff.mpr he]; exact hold
  · -- Ledger: `w.next` was handed out, then the old heap buffer (if any) released
    by_cases hcap : (w.hdr c).N < (w.hdr c).cap
    · rw [if_pos hcap] at hlive hold
      have h1 : Ledger ({ w with next := w.next + 2, live := w.next :: w.live } : World α) :=
        hl.alloc rfl rfl rfl (fun _ _ _ => rfl)
      exact h1.dealloc (w.hdr c).data hnext hntmp hlive hold
        (fun b hbd hbl => by rw [hother b hbd (fun e => hbl (e ▸ List.mem_cons_self))])
    · rw [if_neg hcap] at hlive hold
      refine hl.alloc hnext hntmp hlive (fun b hbn _ => ?_)
      by_cases hbd : b = (w.hdr c).data
      · rw [hbd, hold.1, hv.len]
      · rw [hother b hbd hbn]
  · refine ⟨fun d hd => by rw [hh, upd_other _ _ _ _ hd], by rw [hhc], by rw [hhc],
            fun b h1 _ h3 _ => hother b h1 (Nat.ne_of_lt h3),
            fun b hb => by rw [howner, upd_other _ _ _ _ (Nat.ne_of_lt hb)],
            by rw [hnext]; exact Nat.le_add_right _ _, Or.inr (Or.inr (by rw [hhc]; exact Nat.le_refl _)), ?_, ?_⟩
    · intro b hb
      rw [hmem b, hhc]
      show _ ↔ b ∈ w.live ∧ (b = (w.hdr c).data → w.next = b)
      constructor
      · rintro ⟨h1 | h1, h2⟩
        · exact absurd h1 (Nat.ne_of_lt hb)
        · -- a live block is no inline buffer, so if it is `c`'s buffer it was released
          refine ⟨h1, fun h3 => absurd ⟨hv.heap_iff.mpr (fun e => ?_), h3⟩ h2⟩
          have := (hl.live_ok b h1).1; have := hv.inl_lt; omega
      · rintro ⟨h1, h2⟩
        exact ⟨Or.inr h1, fun h => absurd (h2 h.2).symm (Nat.ne_of_lt hb)⟩
    · intro b hb
      rw [hmem b, hhc]
      show _ ↔ b = w.next
      constructor
      · rintro ⟨h1 | h1, _⟩
        · exact h1
        · exact absurd (hl.live_ok b h1).2.2 (Nat.not_lt.mpr hb)
      · intro h1
        exact ⟨Or.inl h1, fun h => hnd (h1 ▸ h.2)⟩

structure BuiltA (cfg : Cfg) (w w4 : World α) (c ncap a : Nat) : Prop where
  hdr    : w4.hdr = w.hdr
  live   : w4.live = w.next :: w.live
  owner  : w4.owner = upd w.owner w.next a
  next   : w4.next = w.next + 2
  ntmp   : w4.ntmp = w.ntmp
  ub     : w4.ub = w.ub
  lenNew : (w4.mem w.next).length = ncap
  lenOld : ∀ b, b ≠ w.next → (w4.mem b).length = (w.mem b).length
  objs   : ∀ i, i < (w.hdr c).size → IsObj w4 (w.hdr c).data i
  other  : ∀ (b i : Nat), b ≠ w.next → ¬ (b = (w.hdr c).data ∧ i < (w.hdr c).size) → (w4.mem b)[i]? = (w.mem b)[i]?

abbrev Built (cfg : Cfg) (w w4 : World α) (c ncap : Nat) : Prop := BuiltA cfg w w4 c ncap (w.hdr c).alloc

theorem BuiltA.of_alloc {cfg : Cfg} {w w2 : World α} {c ncap : Nat} (a : Nat) (hv : VecOK cfg w c) (hl : Ledger w)
    (hm : w2.mem = upd w.mem w.next (List.replicate ncap .raw)) (ho : w2.owner = upd w.owner w.next a)
    (hlv : w2.live = w.next :: w.live) (hn : w2.next = w.next + 2) (hh : w2.hdr = w.hdr) (ht : w2.ntmp = w.ntmp)
    (hu : w2.ub = w.ub) :
    BuiltA cfg w w2 c ncap a ∧ (∀ i, i < ncap → IsRaw w2 w.next i) ∧ (∀ b, b ≠ w.next → w2.mem b = w.mem b) := by
  have hoth : ∀ b, b ≠ w.next → w2.mem b = w.mem b := fun b hb => by rw [hm, upd_other _ _ _ _ hb]
  refine ⟨⟨hh, hlv, ho, hn, ht, hu, by rw [hm]; simp, fun b hb => by rw [hoth b hb], ?_, ?_⟩, ?_, hoth⟩
  · intro i hi
    have := hv.objs i hi
    unfold IsObj; rw [hoth _ (Ne.symm (hv.next_ne hl).1)]; exact this
  · intro b i hb _; rw [hoth b hb]
  · intro i hi; unfold IsRaw; rw [hm]; simp [hi]

theorem Built.of_alloc {cfg : Cfg} {w w2 : World α} {c ncap : Nat} (hv : VecOK cfg w c) (hl : Ledger w)
    (hm : w2.mem = upd w.mem w.next (List.replicate ncap .raw)) (ho : w2.owner = upd w.owner w.next (w.hdr c).alloc)
    (hlv : w2.live = w.next :: w.live) (hn : w2.next = w.next + 2) (hh : w2.hdr = w.hdr) (ht : w2.ntmp = w.ntmp)
    (hu : w2.ub = w.ub) :
    Built cfg w w2 c ncap ∧ (∀ i, i < ncap → IsRaw w2 w.next i) ∧ (∀ b, b ≠ w.next → w2.mem b = w.mem b) :=
  BuiltA.of_alloc (w.hdr c).alloc hv hl hm ho hlv hn hh ht hu

theorem allocate_built_sat (cfg : Cfg) (c ncap a : Nat) (w : World α) (hv : VecOK cfg w c) (hl : Ledger w) :
    (allocate cfg a ncap w).sat
      (fun nb w2 => nb = w.next ∧ BuiltA cfg w w2 c ncap a ∧ (∀ i, i < ncap → IsRaw w2 w.next i) ∧
                    ∀ b, b ≠ w.next → w2.mem b = w.mem b)
      (fun e w' => e = .alloc ∧ Quiet w w') :=
  Res.sat_mono (allocate_sat cfg a ncap w)
    (fun _ _ ⟨hnb, hm, ho, hlv, hn, hh, ht, hu⟩ => ⟨hnb, BuiltA.of_alloc a hv hl hm ho hlv hn hh ht hu⟩) (fun _ _ h => h)

theorem BuiltA.step {cfg : Cfg} {w w4 w5 : World α} {c ncap a : Nat} (hb : BuiltA cfg w w4 c ncap a) (hc : Ctl w4 w5)
    (hobj : ∀ i, i < (w.hdr c).size → IsObj w5 (w.hdr c).data i)
    (hrest : ∀ (b i : Nat), b ≠ w.next → ¬ (b = (w.hdr c).data ∧ i < (w.hdr c).size) → (w5.mem b)[i]? = (w4.mem b)[i]?) :
    BuiltA cfg w w5 c ncap a :=
  ⟨hc.hdr.trans hb.hdr, hc.live.trans hb.live, hc.owner.trans hb.owner, hc.next.trans hb.next, hc.ntmp.trans hb.ntmp,
   hc.ub.trans hb.ub, (hc.len _).trans hb.lenNew, fun b h => (hc.len b).trans (hb.lenOld b h), hobj,
   fun b i h1 h2 => (hrest b i h1 h2).trans (hb.other b i h1 h2)⟩

theorem Built.step {cfg : Cfg} {w w4 w5 : World α} {c ncap : Nat} (hb : Built cfg w w4 c ncap) (hc : Ctl w4 w5)
    (hobj : ∀ i, i < (w.hdr c).size → IsObj w5 (w.hdr c).data i)
    (hrest : ∀ (b i : Nat), b ≠ w.next → ¬ (b = (w.hdr c).data ∧ i < (w.hdr c).size) → (w5.mem b)[i]? = (w4.mem b)[i]?) :
    Built cfg w w5 c ncap :=
  BuiltA.step hb hc hobj hrest

theorem BuiltA.step_new {cfg : Cfg} {w w4 w5 : World α} {c ncap a : Nat} (hb : BuiltA cfg w w4 c ncap a)
    (hnd : w.next ≠ (w.hdr c).data) (hc : Ctl w4 w5)
    (hrest : ∀ (b i : Nat), b ≠ w.next → (w5.mem b)[i]? = (w4.mem b)[i]?) : BuiltA cfg w w5 c ncap a :=
  hb.step hc (fun i hi => isObj_of_eq (hrest _ i (Ne.symm hnd)) (hb.objs i hi)) (fun b i h _ => hrest b i h)

theorem BuiltA.step_reloc {cfg : Cfg} {w w4 w5 : World α} {c ncap a sidx n didx : Nat} (hb : BuiltA cfg w w4 c ncap a)
    (hnd : w.next ≠ (w.hdr c).data) (hc : Ctl w4 w5) (hfit : sidx + n ≤ (w.hdr c).size)
    (hsrc : ∀ k, k < n → IsObj w5 (w.hdr c).data (sidx + k))
    (hrest : ∀ b i, ¬ (b = w.next ∧ didx ≤ i ∧ i < didx + n) → ¬ (b = (w.hdr c).data ∧ sidx ≤ i ∧ i < sidx + n) →
               (w5.mem b)[i]? = (w4.mem b)[i]?) : BuiltA cfg w w5 c ncap a := by
  refine hb.step hc (fun i hi => ?_)
    (fun b i hbn hn' => hrest b i (fun h => hbn h.1) (fun h => hn' ⟨h.1, Nat.lt_of_lt_of_le h.2.2 hfit⟩))
  by_cases h : sidx ≤ i ∧ i < sidx + n
  · have := hsrc (i - sidx) (by omega)
    rwa [Nat.add_sub_cancel' h.1] at this
  · exact isObj_of_eq (hrest _ i (fun h' => hnd h'.1.symm) (fun h' => h h'.2)) (hb.objs i hi)

/-- relocation of `n` old elements (from `sidx`) into the new block (to `didx`) on a reallocating path: `BuiltA` is
    kept; on success the targets hold the old values; on a throw (which needs a throwing copy or move) they are raw again, and
    under the strong policy the sources are untouched.  Nothing else in the two blocks changes.
    The last needs move_if_noexcept: a relocation under the strong policy moves only if the move constructor cannot
    throw (`movesFor cfg true = true → cfg.tMove = false`), so a relocation that threw was copying. -/
theorem BuiltA.reloc_sat {cfg : Cfg} {w w3 : World α} {c ncap a sidx n didx : Nat} (strong : Bool)
    (hb : BuiltA cfg w w3 c ncap a) (hnd : w.next ≠ (w.hdr c).data) (hfit : sidx + n ≤ (w.hdr c).size)
    (hraw : ∀ k, k < n → IsRaw w3 w.next (didx + k)) :
    (uninitializedMove cfg strong (w.hdr c).data sidx n w.next didx w3).sat
      (fun _ w4 => BuiltA cfg w w4 c ncap a ∧
        (∀ k, k < n → (w4.mem w.next)[didx + k]? = (w3.mem (w.hdr c).data)[sidx + k]?) ∧
        (∀ i, ¬ (didx ≤ i ∧ i < didx + n) → (w4.mem w.next)[i]? = (w3.mem w.next)[i]?) ∧
        (∀ i, ¬ (sidx ≤ i ∧ i < sidx + n) → (w4.mem (w.hdr c).data)[i]? = (w3.mem (w.hdr c).data)[i]?))
      (fun e w4 => e = .elem ∧ (if movesFor cfg strong then cfg.tMove else (cfg.tCopy || cfg.tMove)) = true ∧
        BuiltA cfg w w4 c ncap a ∧ (∀ k, k < n → IsRaw w4 w.next (didx + k)) ∧
        (∀ i, ¬ (didx ≤ i ∧ i < didx + n) → (w4.mem w.next)[i]? = (w3.mem w.next)[i]?) ∧
        (∀ i, ¬ (sidx ≤ i ∧ i < sidx + n) ∨ (strong = true ∧ (movesFor cfg true = true → cfg.tMove = false)) →
          (w4.mem (w.hdr c).data)[i]? = (w3.mem (w.hdr c).data)[i]?)) := by
  refine Res.sat_mono (uninitializedMove_sat cfg strong _ sidx n _ didx w3
    (fun k hk => hb.objs _ (Nat.lt_of_lt_of_le (Nat.add_lt_add_left hk sidx) hfit)) hraw) ?_ ?_
  · intro _ w4 hr
    exact ⟨hb.step_reloc hnd hr.ctl hfit hr.src hr.rest, hr.dst,
      fun i h => hr.rest _ i (fun h' => h h'.2) (fun h' => hnd h'.1),
      fun i h => hr.rest _ i (fun h' => hnd h'.1.symm) (fun h' => h h'.2)⟩
  · intro e w4 ⟨he, hf⟩
    refine ⟨he, hf.can, hb.step_reloc hnd hf.ctl hfit hf.src hf.rest, hf.dst,
      fun i h => hf.rest _ i (fun h' => h h'.2) (fun h' => hnd h'.1), fun i h => ?_⟩
    by_cases hin : sidx ≤ i ∧ i < sidx + n
    · obtain ⟨hs, hstrong⟩ := h.resolve_left (fun h' => h' hin)
      subst hs
      have := hf.kept (hf.nomove hstrong) (i - sidx) (by omega)
      rwa [Nat.add_sub_cancel' hin.1] at this
    · exact hf.rest _ i (fun h' => hnd h'.1.symm) (fun h' => hin h'.2)

theorem BuiltA.reloc_front_sat {cfg : Cfg} {w w3 : World α} {c ncap a : Nat} (strong : Bool)
    (hb : BuiltA cfg w w3 c ncap a) (hnd : w.next ≠ (w.hdr c).data)
    (hraw : ∀ i, i < (w.hdr c).size → IsRaw w3 w.next i) :
    (uninitializedMove cfg strong (w.hdr c).data 0 (w.hdr c).size w.next 0 w3).sat
      (fun _ w4 => BuiltA cfg w w4 c ncap a ∧
        (∀ i, i < (w.hdr c).size → (w4.mem w.next)[i]? = (w3.mem (w.hdr c).data)[i]?) ∧
        (∀ i, (w.hdr c).size ≤ i → (w4.mem w.next)[i]? = (w3.mem w.next)[i]?))
      (fun e w4 => e = .elem ∧ (if movesFor cfg strong then cfg.tMove else (cfg.tCopy || cfg.tMove)) = true ∧
        BuiltA cfg w w4 c ncap a ∧ (∀ i, i < (w.hdr c).size → IsRaw w4 w.next i) ∧
        (∀ i, (w.hdr c).size ≤ i → (w4.mem w.next)[i]? = (w3.mem w.next)[i]?) ∧
        (strong = true → (movesFor cfg true = true → cfg.tMove = false) →
          ∀ i : Nat, (w4.mem (w.hdr c).data)[i]? = (w3.mem (w.hdr c).data)[i]?)) := by
  refine Res.sat_mono (hb.reloc_sat strong hnd (Nat.le_of_eq (Nat.zero_add _))
    (fun k hk => by rw [Nat.zero_add]; exact hraw k hk)) ?_ ?_
  · intro _ w4 ⟨hb4, hdst, hnew, _⟩
    refine ⟨hb4, fun i hi => ?_, fun i hi => hnew i (fun h => by omega)⟩
    have := hdst i hi
    rwa [Nat.zero_add] at this
  · intro e w4 ⟨he, hcan, hb4, hdst, hnew, hold⟩
    refine ⟨he, hcan, hb4, fun i hi => ?_, fun i hi => hnew i (fun h => by omega), fun hs hst i => hold i (Or.inr ⟨hs, hst⟩)⟩
    have := hdst i hi
    rwa [Nat.zero_add] at this

/-- a slot of the new block that was raw before a relocation that threw is raw after it -/
theorem isRaw_of_reloc_failed {w3 w4 : World α} {nb n i : Nat} (hfront : ∀ i, i < n → IsRaw w4 nb i)
    (hrest : ∀ i, n ≤ i → (w4.mem nb)[i]? = (w3.mem nb)[i]?) (h : IsRaw w3 nb i) : IsRaw w4 nb i := by
  by_cases hi : i < n
  · exact hfront i hi
  · exact isRaw_of_eq (hrest i (Nat.not_lt.mp hi)) h

theorem Built.of_quiet {cfg : Cfg} {w w4 w5 : World α} {c ncap : Nat} (hb : Built cfg w w4 c ncap) (hq : Quiet w4 w5) :
    Built cfg w w5 c ncap :=
  hb.step hq.2 (fun i hi => by unfold IsObj; rw [hq.1]; exact hb.objs i hi) (fun b i _ _ => by rw [hq.1])

theorem VecOK.of_slots {cfg : Cfg} {w w' : World α} {c : Nat} (hv : VecOK cfg w c) (hl : Ledger w)
    (hh : w'.hdr c = w.hdr c) (hlen : ∀ b, b ≠ w.next → (w'.mem b).length = (w.mem b).length)
    (hobj : ∀ i, i < (w.hdr c).size → IsObj w' (w.hdr c).data i)
    (hslots : ∀ (b i : Nat), b ≠ w.next → ¬ (b = (w.hdr c).data ∧ i < (w.hdr c).size) → (w'.mem b)[i]? = (w.mem b)[i]?)
    (hlive : ∀ b, b ∈ w.live → b ∈ w'.live) (hown : ∀ b, b ≠ w.next → w'.owner b = w.owner b) : VecOK cfg w' c := by
  obtain ⟨hnd, hni⟩ := hv.next_ne hl
  refine hv.transfer hh (hlen _ (Ne.symm hnd)) hobj ?_ ?_ ?_
  · intro i h1 h2
    exact isRaw_of_eq (hslots _ i (Ne.symm hnd) (fun h => Nat.not_lt.mpr h1 h.2)) (hv.raws i h1 h2)
  · intro hne
    obtain ⟨h1, h2⟩ := hv.heap hne
    exact ⟨hlive _ h1, by rw [hown _ (Ne.symm hnd)]; exact h2⟩
  · intro hne
    obtain ⟨h1, h2⟩ := hv.idle hne
    exact ⟨(hlen _ (Ne.symm hni)).trans h1,
           fun i hi => isRaw_of_eq (hslots _ i (Ne.symm hni) (fun h => hne h.1.symm)) (h2 i hi)⟩

theorem BuiltA.vecOK {cfg : Cfg} {w w4 : World α} {c ncap a : Nat} (hb : BuiltA cfg w w4 c ncap a)
    (hv : VecOK cfg w c) (hl : Ledger w) : VecOK cfg w4 c :=
  hv.of_slots hl (by rw [hb.hdr]) hb.lenOld hb.objs hb.other
    (fun b h => by rw [hb.live]; exact List.mem_cons_of_mem _ h) (fun b h => by rw [hb.owner, upd_other _ _ _ _ h])

theorem BuiltA.dealloc {cfg : Cfg} {w w4 : World α} {c ncap a : Nat} (hl : Ledger w) (hb : BuiltA cfg w w4 c ncap a)
    (hraw : ∀ i, i < ncap → IsRaw w4 w.next i) :
    ∃ w5, deallocate a w.next ncap w4 = .ok () w5 ∧ Ledger w5 ∧ w5.hdr = w.hdr ∧ w5.live = w.live ∧ w5.ub = w.ub ∧
      w5.next = w.next + 2 ∧ (∀ b, b ≠ w.next → w5.owner b = w.owner b) ∧ ∀ b, b ≠ w.next → w5.mem b = w4.mem b := by
  have hlive : w4.live.erase w.next = w.live := by rw [hb.live, List.erase_cons_head]
  refine ⟨_, deallocate_run _ _ _ w4 (by rw [hb.live]; exact List.mem_cons_self) hb.lenNew hraw
    (by rw [hb.owner]; exact upd_same _ _ _), ?_, hb.hdr, hlive, hb.ub, hb.next,
    fun b hbn => by show w4.owner b = _; rw [hb.owner, upd_other _ _ _ _ hbn], fun b hbn => upd_other _ _ _ _ hbn⟩
  exact (hl.alloc hb.next hb.ntmp hb.live (fun b hbn _ => hb.lenOld b hbn)).dealloc w.next rfl rfl rfl (upd_same _ _ _)
    (fun b hbn _ => by show (upd w4.mem w.next [] b).length = _; rw [upd_other _ _ _ _ hbn])

/-- roll-back: the new block is all raw again and the old buffer is exactly as it was — deallocating the new block
    restores the world observably (strong guarantee) -/
theorem abort_realloc_alloc {cfg : Cfg} {w w4 : World α} {c ncap a : Nat} (hv : VecOK cfg w c) (hl : Ledger w)
    (hb : BuiltA cfg w w4 c ncap a)
    (hexact : ∀ i, i < (w.hdr c).size → (w4.mem (w.hdr c).data)[i]? = (w.mem (w.hdr c).data)[i]?)
    (hrawNew : ∀ i, i < ncap → IsRaw w4 w.next i) :
    ∃ w', deallocate a w.next ncap w4 = .ok () w' ∧ Strong w w' := by
  obtain ⟨w5, hd, hled, hh, hlive, hub, hnext, hown, hmem⟩ := hb.dealloc hl hrawNew
  refine ⟨w5, hd, hh, hlive, hub, fun b hlt => hown b (Nat.ne_of_lt hlt), fun b hlt _ => ?_,
          by rw [hnext]; exact Nat.le_add_right _ _, hled⟩
  have hbn := Nat.ne_of_lt hlt
  rw [hmem b hbn]
  refine List.ext_getElem? (fun i => ?_)
  by_cases h : b = (w.hdr c).data ∧ i < (w.hdr c).size
  · rw [h.1]; exact hexact i h.2
  · exact hb.other b i hbn h

theorem abort_realloc {cfg : Cfg} {w w4 : World α} {c ncap : Nat} (hv : VecOK cfg w c) (hl : Ledger w)
    (hb : Built cfg w w4 c ncap)
    (hexact : ∀ i, i < (w.hdr c).size → (w4.mem (w.hdr c).data)[i]? = (w.mem (w.hdr c).data)[i]?)
    (hrawNew : ∀ i, i < ncap → IsRaw w4 w.next i) :
    ∃ w', deallocate (w.hdr c).alloc w.next ncap w4 = .ok () w' ∧ Strong w w' :=
  abort_realloc_alloc hv hl hb hexact hrawNew

theorem BuiltA.switch {cfg : Cfg} {w w4 w5 : World α} {c ncap n' a : Nat} (hb : BuiltA cfg w w4 c ncap a)
    (hv : VecOK cfg w c) (hl : Ledger w)
    (hN : (w.hdr c).N < ncap) (hmax : ncap ≤ cfg.maxSize) (hn : n' ≤ ncap)
    (hobj : ∀ i, i < n' → IsObj w4 w.next i) (hraw : ∀ i, n' ≤ i → i < ncap → IsRaw w4 w.next i)
    (hw : Wiped w4 w5 c) {v' : Vec}
    (hv' : v' = { w.hdr c with data := w.next, cap := ncap, size := n', alloc := a }) :
    (Res.ok () ({ w5 with hdr := upd w5.hdr c v' } : World α)).sat
      (fun _ w' => VecOK cfg w' c ∧ Ledger w' ∧ Frame1 w w' c ∧ w'.ub = w.ub ∧
                   w'.hdr c = { w.hdr c with data := w.next, cap := ncap, size := n', alloc := a } ∧
                   w'.mem w.next = w4.mem w.next ∧ w'.next = w.next + 2)
      (fun _ _ => False) := by
  subst hv'
  have hh4 : w4.hdr c = w.hdr c := by rw [hb.hdr]
  have hnd := (hv.next_ne hl).1
  have hdata5 := hw.data
  rw [hh4] at hdata5
  have hnew5 : w5.mem w.next = w4.mem w.next := hw.other _ (by rw [hh4]; exact hnd)
  have hres := realloc_ok_alloc cfg (w' := { w5 with hdr := upd w5.hdr c _ }) a hv hl hN hmax hn
    (by show upd w5.hdr c _ = _; rw [hw.hdr, hb.hdr]) (hw.next.trans hb.next) (hw.ntmp.trans hb.ntmp)
    (by show w5.live = _; rw [hw.live, hh4, hb.live]) (hw.owner.trans hb.owner)
    (by show (w5.mem w.next).length = _; rw [hnew5]; exact hb.lenNew)
    (fun i hi => isObj_of_eq (w := w4) (by show (w5.mem w.next)[i]? = _; rw [hnew5]) (hobj i hi))
    (fun i h1 h2 => isRaw_of_eq (w := w4) (by show (w5.mem w.next)[i]? = _; rw [hnew5]) (hraw i h1 h2))
    hdata5
    (fun b h1 h2 => (hw.other b (by rw [hh4]; exact h1)).trans
      (List.ext_getElem? (fun i => hb.other b i h2 (fun h => h1 h.1))))
  exact ⟨hres.1, hres.2.1, hres.2.2, hw.ub.trans hb.ub, upd_same _ _ _, hnew5, hw.next.trans hb.next⟩

theorem finish_realloc_alloc {cfg : Cfg} {w w4 : World α} {c ncap n' a : Nat} (hv : VecOK cfg w c) (hl : Ledger w)
    (hb : BuiltA cfg w w4 c ncap a)
    (hN : (w.hdr c).N < ncap) (hmax : ncap ≤ cfg.maxSize) (hn : n' ≤ ncap)
    (hobj : ∀ i, i < n' → IsObj w4 w.next i) (hraw : ∀ i, n' ≤ i → i < ncap → IsRaw w4 w.next i) :
    ((resetData cfg c w.next ncap n' >>= fun _ => setAlloc c a) w4).sat
      (fun _ w' => VecOK cfg w' c ∧ Ledger w' ∧ Frame1 w w' c ∧ w'.ub = w.ub ∧
                   w'.hdr c = { w.hdr c with data := w.next, cap := ncap, size := n', alloc := a } ∧
                   w'.mem w.next = w4.mem w.next ∧ w'.next = w.next + 2)
      (fun _ _ => False) := by
  unfold resetData
  rw [bind_assoc_run]
  refine sat_bind (wipe_sat cfg c w4 (hb.vecOK hv hl)) (fun _ w5 hw => ?_) (fun _ _ h => h)
  rw [setData_setAlloc_run]
  exact hb.switch hv hl hN hmax hn hobj hraw hw (by rw [hw.hdr, hb.hdr])

theorem finish_realloc {cfg : Cfg} {w w4 : World α} {c ncap n' : Nat} (hv : VecOK cfg w c) (hl : Ledger w)
    (hb : Built cfg w w4 c ncap)
    (hN : (w.hdr c).N < ncap) (hmax : ncap ≤ cfg.maxSize) (hn : n' ≤ ncap)
    (hobj : ∀ i, i < n' → IsObj w4 w.next i) (hraw : ∀ i, n' ≤ i → i < ncap → IsRaw w4 w.next i) :
    (resetData cfg c w.next ncap n' w4).sat
      (fun _ w' => VecOK cfg w' c ∧ Ledger w' ∧ Frame1 w w' c ∧ w'.ub = w.ub ∧
                   w'.hdr c = { w.hdr c with data := w.next, cap := ncap, size := n' } ∧
                   w'.mem w.next = w4.mem w.next ∧ w'.next = w.next + 2)
      (fun _ _ => False) := by
  unfold resetData
  refine sat_bind (wipe_sat cfg c w4 (hb.vecOK hv hl)) (fun _ w5 hw => ?_) (fun _ _ h => h)
  rw [setData_run]
  exact hb.switch hv hl hN hmax hn hobj hraw hw (by rw [hw.hdr, hb.hdr])

/-- basic guarantee for container `c`: valid, leak-free, everything else untouched -/
structure Basic (cfg : Cfg) (w w' : World α) (c : Nat) : Prop where
  vec   : VecOK cfg w' c
  led   : Ledger w'
  ub    : w'.ub = w.ub
  frame : Frame1 w w' c

theorem Strong.basic {cfg : Cfg} {w w' : World α} {c : Nat} (hs : Strong w w') (hl : Ledger w) (hv : VecOK cfg w c) :
    Basic cfg w w' c :=
  ⟨hs.vecOK hl hv, hs.led, hs.ub, Frame1.of_same hl hv hs.hdr hs.live hs.owner hs.next (fun b _ _ h3 h4 => hs.mem b h3 h4)⟩

theorem Basic.trans {cfg : Cfg} {a b d : World α} {c : Nat} (hl : Ledger a) (hv : VecOK cfg a c)
    (h1 : Basic cfg a b c) (h2 : Basic cfg b d c) : Basic cfg a d c :=
  ⟨h2.vec, h2.led, h2.ub.trans h1.ub, Frame1.trans hl hv h1.frame h2.frame⟩

theorem Basic.refl {cfg : Cfg} {w : World α} {c : Nat} (hv : VecOK cfg w c) (hl : Ledger w) : Basic cfg w w c :=
  Strong.basic (Strong.refl hl) hl hv

theorem Basic.of_quiet {cfg : Cfg} {w w1 w2 : World α} {c : Nat} (h : Basic cfg w w1 c) (hl0 : Ledger w) (hv0 : VecOK cfg w c)
    (hq : Quiet w1 w2) : Basic cfg w w2 c :=
  Basic.trans hl0 hv0 h (Strong.basic (Strong.of_quiet h.led hq) h.led h.vec)

/-- roll-back of a reallocating path when the old buffer was only shape-preserved (moved-from elements possible):
    basic guarantee -/
theorem abort_realloc_basic {cfg : Cfg} {w w4 : World α} {c ncap : Nat} (hv : VecOK cfg w c) (hl : Ledger w)
    (hb : Built cfg w w4 c ncap) (hrawNew : ∀ i, i < ncap → IsRaw w4 w.next i) :
    ∃ w', deallocate (w.hdr c).alloc w.next ncap w4 = .ok () w' ∧ Basic cfg w w' c ∧ w'.hdr = w.hdr ∧ w'.live = w.live := by
  obtain ⟨w5, hd, hled, hh, hlive, hub, hnext, hown, hmem⟩ := hb.dealloc hl hrawNew
  obtain ⟨hnd, hni⟩ := hv.next_ne hl
  have hslots : ∀ (b i : Nat), b ≠ w.next → ¬ (b = (w.hdr c).data ∧ i < (w.hdr c).size) → (w5.mem b)[i]? = (w.mem b)[i]? :=
    fun b i h1 h2 => by rw [hmem b h1]; exact hb.other b i h1 h2
  have hlen : ∀ b, b ≠ w.next → (w5.mem b).length = (w.mem b).length := fun b h => by rw [hmem b h]; exact hb.lenOld b h
  refine ⟨w5, hd, ⟨?_, hled, hub, ?_⟩, hh, hlive⟩
  · exact hv.of_slots hl (by rw [hh]) hlen (fun i hi => by unfold IsObj; rw [hmem _ (Ne.symm hnd)]; exact hb.objs i hi) hslots
      (fun b h => by rw [hlive]; exact h) hown
  · exact Frame1.of_same hl hv hh hlive (fun b hb' => hown b (Nat.ne_of_lt hb')) (by rw [hnext]; exact Nat.le_add_right _ _)
      (fun b h1 _ h3 _ => List.ext_getElem? (fun i => hslots b i (Nat.ne_of_lt h3) (fun h => h1 h.1)))

/-- the three branches of `newCapacity` are max_size, the request, twice the capacity -/
theorem newCapacity_bounds (m cap req : Nat) (h1 : cap < req) (h2 : req ≤ m) :
    req ≤ newCapacity m cap req ∧ newCapacity m cap req ≤ m := by
  unfold newCapacity
  simp only [decide_eq_true_eq]
  split <;> (try split) <;> omega

theorem checkedCalc_run (cfg : Cfg) (v : Vec) (req : Nat) (w : World α) :
    checkedCalcNewCapacity cfg v req w =
      if cfg.maxSize < req then .thrown .length w else .ok (newCapacity cfg.maxSize v.cap req) w := by
  unfold checkedCalcNewCapacity checkedNewCapacity
  by_cases h : cfg.maxSize < req
  · simp [h, throwE]
  · simp [h]; rfl

end SvModel
