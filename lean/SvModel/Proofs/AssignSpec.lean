/-
Assignment loops (std::copy / std::move / std::fill / std::move_backward as element-wise assignment over LIVE slots).

`Touched w w' P` — the shape abstraction: only slots satisfying `P` may have changed, every slot that held an object
still holds one, raw slots are still raw.  It holds in BOTH outcomes of every assignment loop, for every fault list;
this is what makes the basic guarantee (C06) cheap.  Exact values on normal return are separate lemmas.
-/
import SvModel.Proofs.RangeSpec

namespace SvModel
variable {α : Type}

structure Touched (w w' : World α) (P : Nat → Nat → Prop) : Prop where
  ctl  : Ctl w w'
  same : ∀ (b i : Nat), ¬ P b i → (w'.mem b)[i]? = (w.mem b)[i]?
  obj  : ∀ (b i : Nat), P b i → IsObj w b i → IsObj w' b i

theorem Touched.refl (w : World α) (P : Nat → Nat → Prop) : Touched w w P :=
  ⟨Ctl.refl w, fun _ _ _ => rfl, fun _ _ _ h => h⟩

theorem Touched.isObj {w w' : World α} {P : Nat → Nat → Prop} (h : Touched w w' P) {b i : Nat} (ho : IsObj w b i) : IsObj w' b i := by
  by_cases hp : P b i
  · exact h.obj b i hp ho
  · exact isObj_of_eq (h.same b i hp) ho

theorem Touched.isRaw {w w' : World α} {P : Nat → Nat → Prop} (h : Touched w w' P) {b i : Nat}
    (hp : ∀ b i, P b i → IsObj w b i) (hr : IsRaw w b i) : IsRaw w' b i := by
  by_cases hpb : P b i
  · exact (not_obj_and_raw (hp b i hpb) hr).elim
  · exact isRaw_of_eq (h.same b i hpb) hr

theorem Touched.mono {w w' : World α} {P Q : Nat → Nat → Prop} (h : Touched w w' P) (hpq : ∀ b i, P b i → Q b i) : Touched w w' Q :=
  ⟨h.ctl, fun b i hn => h.same b i (fun hp => hn (hpq b i hp)), fun _ _ _ ho => h.isObj ho⟩

theorem Touched.trans {a b c : World α} {P : Nat → Nat → Prop} (h1 : Touched a b P) (h2 : Touched b c P) : Touched a c P :=
  ⟨h1.ctl.trans h2.ctl, fun x i hn => (h2.same x i hn).trans (h1.same x i hn), fun _ _ _ ho => h2.isObj (h1.isObj ho)⟩

theorem Touched.of_quiet {w w' : World α} (P : Nat → Nat → Prop) (h : Quiet w w') : Touched w w' P :=
  ⟨h.2, fun _ _ _ => by rw [h.1], fun _ _ _ ho => by unfold IsObj; rw [h.1]; exact ho⟩

theorem WroteFrom.touched {c : Cfg} {w w' : World α} {blk idx : Nat} {s : Src α} (hw : WroteFrom c w w' blk idx s) :
    Touched w w' (fun b i => (b, i) = (blk, idx) ∨ s.loc = some (b, i)) := by
  refine ⟨hw.ctl, ?_, ?_⟩
  · intro b i hn
    exact hw.rest b i (fun h => hn (Or.inl h)) (fun h => hn (Or.inr h))
  · intro b i hp _
    by_cases h1 : (b, i) = (blk, idx)
    · injection h1 with h1 h2; subst h1; subst h2; exact ⟨_, hw.dst⟩
    · rcases hp with hp | hp
      · exact absurd hp h1
      · exact ⟨_, hw.src b i hp h1⟩

theorem WroteFrom.touched_nm {c : Cfg} {w w' : World α} {blk idx : Nat} {s : Src α} (hw : WroteFrom c w w' blk idx s)
    (hnm : s.moving c = false) (hlive : SrcLive w s) : Touched w w' (fun b i => (b, i) = (blk, idx)) := by
  refine ⟨hw.ctl, fun b i hn => hw.same_of_nonmoving hnm hlive b i hn, ?_⟩
  intro b i hp _
  injection hp with h1 h2
  subst h1; subst h2
  exact ⟨_, hw.dst⟩

theorem Filled.touched {w w' : World α} {dblk d k : Nat} {srcs : List (Src α)} (h : Filled w w' dblk d srcs k)
    (hk : k ≤ srcs.length) : Touched w w' (Rng dblk d (d + srcs.length)) := by
  refine ⟨h.ctl, fun b i hn => h.rest b i (fun ⟨e, h1, h2⟩ => hn ⟨e, h1, by omega⟩), fun b i ⟨e, h1, h2⟩ ho => ?_⟩
  subst e
  by_cases hi : i < d + k
  · exact ⟨_, Nat.add_sub_cancel' h1 ▸ h.vals (i - d) (by omega) (by omega)⟩
  · exact isObj_of_eq (h.rest b i (fun ⟨_, _, h3⟩ => hi h3)) ho

/-- forward assignment loop with sources that are not modified and lie outside the target range: on normal return the
    targets hold the sources' values and NOTHING else changed; on a throw that holds for a prefix of the targets -/
theorem assignGen_filled_sat (c : Cfg) (dblk : Nat) (srcs : List (Src α)) (d : Nat) (w : World α)
    (hnm : NonMoving c srcs)
    (hobj : ∀ k, k < srcs.length → IsObj w dblk (d + k))
    (hlive : ∀ s ∈ srcs, SrcLive w s)
    (hout : ∀ s ∈ srcs, ∀ b i, s.loc = some (b, i) → ¬ (b = dblk ∧ d ≤ i ∧ i < d + srcs.length)) :
    (assignGen c dblk d srcs w).sat
      (fun _ w' => Filled w w' dblk d srcs srcs.length)
      (fun e w' => e = .elem ∧ ∃ k, k ≤ srcs.length ∧ Filled w w' dblk d srcs k) := by
  refine loop_sat (loop := assignGen c dblk) (fun _ => rfl) (fun _ _ _ => rfl) srcs (fun k w' => Filled w w' dblk d srcs k) d w
    (Filled.zero ..) (fun k hk w1 h => ?_)
  have hs := List.getElem_mem hk
  have hout1 : ∀ b i, srcs[k].loc = some (b, i) → ¬ (b = dblk ∧ d ≤ i ∧ i < d + k) :=
    fun b i hl ⟨e, h1, h2⟩ => hout _ hs b i hl ⟨e, h1, by omega⟩
  obtain ⟨u, hu⟩ := isObj_of_eq (h.rest dblk (d + k) (fun ⟨_, _, h3⟩ => by omega)) (hobj k hk)
  exact Res.sat_mono (assignSrc_sat c dblk (d + k) srcs[k] w1 u hu
      (fun b i hl => isObj_of_eq (h.rest b i (hout1 b i hl)) (hlive _ hs b i hl))
      (fun hl => hout _ hs dblk (d + k) hl ⟨rfl, Nat.le_add_right _ _, by omega⟩))
    (fun _ w2 hw => h.step hk hw (hnm _ hs) (hlive _ hs) hout1)
    (fun e w2 ⟨he, hq⟩ => ⟨he.1, k, Nat.le_of_lt hk, h.quiet hq⟩)

theorem assignGen_nonmoving_sat (c : Cfg) (dblk : Nat) (srcs : List (Src α)) (d : Nat) (w : World α)
    (hnm : NonMoving c srcs)
    (hobj : ∀ k, k < srcs.length → IsObj w dblk (d + k))
    (hlive : ∀ s ∈ srcs, SrcLive w s)
    (hout : ∀ s ∈ srcs, ∀ b i, s.loc = some (b, i) → ¬ (b = dblk ∧ d ≤ i ∧ i < d + srcs.length)) :
    (assignGen c dblk d srcs w).sat
      (fun _ w' => Ctl w w' ∧
        (∀ k (h : k < srcs.length), (w'.mem dblk)[d + k]? = some (.obj (srcVal w srcs[k]))) ∧
        SameOut w w' (Rng dblk d (d + srcs.length)))
      (fun _ _ => True) :=
  Res.sat_mono (assignGen_filled_sat c dblk srcs d w hnm hobj hlive hout)
    (fun _ _ h => ⟨h.ctl, fun k hk => h.vals k hk hk, h.rest⟩) (fun _ _ _ => trivial)

/-- the same loop, shape level, BOTH outcomes: only the targets change (and remain objects); in particular the
    sources' blocks are untouched even when an assignment throws -/
theorem assignGen_touched_nm (c : Cfg) (dblk : Nat) (srcs : List (Src α)) (d : Nat) (w : World α)
    (hnm : NonMoving c srcs)
    (hobj : ∀ k, k < srcs.length → IsObj w dblk (d + k))
    (hlive : ∀ s ∈ srcs, SrcLive w s)
    (hout : ∀ s ∈ srcs, ∀ b i, s.loc = some (b, i) → ¬ (b = dblk ∧ d ≤ i ∧ i < d + srcs.length)) :
    (assignGen c dblk d srcs w).sat
      (fun _ w' => Touched w w' (Rng dblk d (d + srcs.length)))
      (fun e w' => e = .elem ∧ Touched w w' (Rng dblk d (d + srcs.length))) :=
  Res.sat_mono (assignGen_filled_sat c dblk srcs d w hnm hobj hlive hout)
    (fun _ _ h => h.touched (Nat.le_refl _)) (fun _ _ ⟨he, _, hk, h⟩ => ⟨he, h.touched hk⟩)

/-- std::move_backward by k > 0 inside one block: everything in [a, a+n+k) stays an object and nothing else changes,
    in both outcomes; on normal return the n objects from `a` on have arrived k slots further up -/
theorem moveBackward_sat (c : Cfg) (b a k : Nat) (hk : 0 < k) : ∀ (n : Nat) (w : World α),
    (∀ j, a ≤ j → j < a + n + k → IsObj w b j) →
    (moveBackward c b a k n w).sat
      (fun _ w' => Touched w w' (Rng b a (a + n + k)) ∧
        ∀ i, i < n → (w'.mem b)[a + i + k]? = (w.mem b)[a + i]?)
      (fun e w' => e = .elem ∧ Touched w w' (Rng b a (a + n + k)))
  | 0, w, _ => ⟨Touched.refl w _, fun i h => absurd h (Nat.not_lt_zero i)⟩
  | n+1, w, hobj => by
    have hle : a ≤ a + n + k := Nat.le_trans (Nat.le_add_right a n) (Nat.le_add_right _ k)
    have htgt : a + n + k < a + (n + 1) + k := Nat.add_lt_add_right (Nat.lt_succ_self _) k
    have hsrc : a + n < a + (n + 1) + k := Nat.lt_of_lt_of_le (Nat.lt_succ_self _) (Nat.le_add_right _ k)
    show ((assignSrc c b (a + n + k) (.moveOf b (a + n)) >>= fun _ => moveBackward c b a k n) w).sat _ _
    obtain ⟨u, hu⟩ := hobj (a + n + k) hle htgt
    obtain ⟨v, hv⟩ := hobj (a + n) (Nat.le_add_right a n) hsrc
    refine sat_bind (assignSrc_sat c b (a + n + k) (.moveOf b (a + n)) w u hu (fun b' i' hl => by cases hl; exact ⟨v, hv⟩)
      (fun hl => by injection hl with hl; injection hl with _ e; exact Nat.ne_of_lt (Nat.lt_add_of_pos_right hk) e))
      (fun _ w1 hw => ?_) (fun e w1 ⟨he, hq⟩ => ⟨he.1, Touched.of_quiet _ hq⟩)
    have ht1 : Touched w w1 (fun b' i => b' = b ∧ a ≤ i ∧ i < a + (n + 1) + k) := hw.touched.mono (by
      rintro b' i (e | e) <;> cases e
      · exact ⟨rfl, hle, htgt⟩
      · exact ⟨rfl, Nat.le_add_right a n, hsrc⟩)
    have hup : ∀ b' i, (b' = b ∧ a ≤ i ∧ i < a + n + k) → b' = b ∧ a ≤ i ∧ i < a + (n + 1) + k :=
      fun b' i ⟨h1, h2, h3⟩ => ⟨h1, h2, Nat.lt_trans h3 htgt⟩
    refine Res.sat_mono (moveBackward_sat c b a k hk n w1 (fun j h1 h2 => ht1.isObj (hobj j h1 (Nat.lt_trans h2 htgt))))
      (fun _ w2 ⟨ht2, hv2⟩ => ⟨ht1.trans (ht2.mono hup), fun i hi => ?_⟩) (fun e w2 ⟨he, ht2⟩ => ⟨he, ht1.trans (ht2.mono hup)⟩)
    rcases Nat.lt_succ_iff_lt_or_eq.mp hi with hlt | rfl
    · have hai := Nat.add_lt_add_left hlt a
      rw [hv2 i hlt]
      exact hw.rest b (a + i) (fun e => by injection e with _ e; exact Nat.ne_of_lt (Nat.lt_of_lt_of_le hai (Nat.le_add_right _ k)) e)
        (fun e => by injection e with e; injection e with _ e; exact Nat.ne_of_gt hai e)
    · rw [ht2.same b (a + i + k) (fun ⟨_, _, h⟩ => Nat.lt_irrefl _ h), hw.dst, srcVal_moveOf w b (a + i) v hv, hv]

theorem moveLeft_sat (cfg : Cfg) (b : Nat) : ∀ (n first dfirst : Nat) (w : World α), dfirst < first →
    (∀ j, dfirst ≤ j → j < first + n → IsObj w b j) →
    (moveLeft cfg b first n dfirst w).sat
      (fun _ w' => Touched w w' (fun b' i => b' = b ∧ dfirst ≤ i ∧ i < first + n) ∧
                   ∀ k, k < n → (w'.mem b)[dfirst + k]? = (w.mem b)[first + k]?)
      (fun e w' => e = .elem ∧ Touched w w' (fun b' i => b' = b ∧ dfirst ≤ i ∧ i < first + n))
  | 0, first, dfirst, w, _, _ => by
    show Touched w w _ ∧ _
    exact ⟨Touched.refl w _, fun k h => by omega⟩
  | n+1, first, dfirst, w, hlt, hobj => by
    unfold moveLeft
    rw [srcsMove_succ]
    show ((assignSrc cfg b dfirst (.moveOf b first) >>= fun _ => assignGen cfg b (dfirst + 1) (srcsMove b (first + 1) n)) w).sat _ _
    obtain ⟨u, hu⟩ := hobj dfirst (Nat.le_refl _) (by omega)
    obtain ⟨v, hv⟩ := hobj first (by omega) (by omega)
    have hsrc : SrcLive w (.moveOf b first : Src α) := by
      intro b' i' hl
      obtain ⟨h1, h2⟩ := Prod.mk.inj (Option.some.inj hl)
      rw [← h1, ← h2]; exact ⟨v, hv⟩
    have hne : (Src.moveOf b first : Src α).loc ≠ some (b, dfirst) := fun h =>
      Nat.ne_of_gt hlt (Prod.mk.inj (Option.some.inj h)).2
    refine sat_bind (assignSrc_sat cfg b dfirst (.moveOf b first) w u hu hsrc hne) (fun _ w1 hw => ?_) ?_
    · have ht1 : Touched w w1 (fun b' i => b' = b ∧ dfirst ≤ i ∧ i < first + (n + 1)) :=
        hw.touched.mono (fun b' i h => by
          rcases h with h | h
          · injection h with h1 h2; exact ⟨h1, by omega, by omega⟩
          · obtain ⟨h1, h2⟩ := Prod.mk.inj (Option.some.inj h); exact ⟨h1.symm, by omega, by omega⟩)
      have hdst : (w1.mem b)[dfirst]? = (w.mem b)[first]? := by
        rw [hw.dst, hv]; simp [srcVal, hv]
      have hsame1 : ∀ i, i ≠ dfirst → i ≠ first → (w1.mem b)[i]? = (w.mem b)[i]? := by
        intro i h1 h2
        exact hw.rest b i (by intro h; injection h with _ h; exact h1 h) (by simp [Src.loc]; intro h; exact h2 h.symm)
      have ih := moveLeft_sat cfg b n (first + 1) (dfirst + 1) w1 (by omega)
        (fun j h1 h2 => ht1.isObj (hobj j (by omega) (by omega)))
      unfold moveLeft at ih
      refine Res.sat_mono ih ?_ ?_
      · intro _ w2 ⟨ht2, hv2⟩
        refine ⟨ht1.trans (ht2.mono (fun b' i ⟨h1, h2, h3⟩ => ⟨h1, by omega, by omega⟩)), ?_⟩
        intro k hk
        cases k with
        | zero =>
          simp only [Nat.add_zero]
          rw [ht2.same b dfirst (by intro ⟨_, h, _⟩; omega)]; exact hdst
        | succ k =>
          have := hv2 k (Nat.lt_of_succ_lt_succ hk)
          rw [Nat.add_assoc, Nat.add_assoc, Nat.add_comm 1 k] at this
          rw [this]
          exact hsame1 _ (Nat.ne_of_gt (Nat.lt_of_lt_of_le hlt (Nat.le_add_right _ _)))
            (Nat.ne_of_gt (Nat.lt_add_of_pos_right (Nat.succ_pos k)))
      · intro e w2 ⟨he, ht2⟩
        exact ⟨he, ht1.trans (ht2.mono (fun b' i ⟨h1, h2, h3⟩ => ⟨h1, by omega, by omega⟩))⟩
    · intro e w1 ⟨he, hq⟩
      exact ⟨he.1, Touched.of_quiet _ hq⟩

end SvModel
