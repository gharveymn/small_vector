/-
swap inside a system of containers.

`SysAll.exchange`     — the O(1) path (`swap_allocation`): the two headers exchange (data, capacity, size) and, when the
                        allocator propagates on swap, the allocators; no element is touched (C09: iterators into a heap
                        buffer stay valid and now belong to the other container).
`SysAll.swapHandover` — the mixed path of `swap_default`: the elements of the container in its in-object buffer move to the
                        other one's in-object buffer, which hands its heap buffer over.
`SysAll.swapElements` — the element-wise path, as two single-container steps.
`SysAll.swapDefault`, `SysAll.swap` — the dispatch over these paths (equal or propagating allocators).
-/
import SvModel.Proofs.Handover
import SvModel.Proofs.Swap
import SvModel.Proofs.SysInv

namespace SvModel
open Gen
variable {α : Type}

/-- the two-header rewrite of `swap_allocation` followed by the allocator exchange -/
def exchW (w : World α) (c o a1 a2 : Nat) : World α :=
  { w with hdr := (upd (upd w.hdr c { w.hdr c with data := (w.hdr o).data, cap := (w.hdr o).cap, size := (w.hdr o).size, alloc := a1 })
      o { w.hdr o with data := (w.hdr c).data, cap := (w.hdr c).cap, size := (w.hdr c).size, alloc := a2 }) }

theorem exchW_hdr_c (w : World α) {c o : Nat} (hco : c ≠ o) (a1 a2 : Nat) :
    (exchW w c o a1 a2).hdr c = { w.hdr c with data := (w.hdr o).data, cap := (w.hdr o).cap, size := (w.hdr o).size, alloc := a1 } :=
  upd_upd_fst _ hco _ _

theorem exchW_hdr_o (w : World α) (c o a1 a2 : Nat) :
    (exchW w c o a1 a2).hdr o = { w.hdr o with data := (w.hdr c).data, cap := (w.hdr c).cap, size := (w.hdr c).size, alloc := a2 } :=
  upd_same _ _ _

theorem exchW_hdr_other (w : World α) {c o d : Nat} (a1 a2 : Nat) (h1 : d ≠ c) (h2 : d ≠ o) : (exchW w c o a1 a2).hdr d = w.hdr d :=
  (upd_other _ _ _ _ h2).trans (upd_other _ _ _ _ h1)

theorem SysAll.exchange {cfg : Cfg} {w : World α} {U A : List Nat} {c o : Nat} (hs : SysAll cfg w U A)
    (hc : c ∈ A) (ho : o ∈ A) (hco : c ≠ o) (hN : (w.hdr c).N = (w.hdr o).N)
    (hoi : (w.hdr o).data = (w.hdr o).inl → (w.hdr o).inl = (w.hdr c).inl)
    (hci : (w.hdr c).data = (w.hdr c).inl → (w.hdr c).inl = (w.hdr o).inl)
    (a1 a2 : Nat) (ha1 : (w.hdr o).data ≠ (w.hdr o).inl → a1 = (w.hdr o).alloc)
    (ha2 : (w.hdr c).data ≠ (w.hdr c).inl → a2 = (w.hdr c).alloc) :
    SysAll cfg (exchW w c o a1 a2) U A ∧
    (∀ xs, Holds w o xs → Holds (exchW w c o a1 a2) c xs) ∧ (∀ xs, Holds w c xs → Holds (exchW w c o a1 a2) o xs) ∧
    (∀ d ∈ A, d ≠ c → d ≠ o → ∀ xs, Holds w d xs → Holds (exchW w c o a1 a2) d xs) ∧
    (exchW w c o a1 a2).mem = w.mem ∧ (exchW w c o a1 a2).live = w.live := by
  have hoc : o ≠ c := fun h => hco h.symm
  have hvc := hs.ok.vec c hc
  have hvo := hs.ok.vec o ho
  have hl := hs.ok.led
  have hhc := exchW_hdr_c w hco a1 a2
  have hho := exchW_hdr_o w c o a1 a2
  -- one side of the exchange (stated for the pair (x, y) = (c, o) and (o, c))
  have side : ∀ (x y a : Nat), VecOK cfg w x → VecOK cfg w y → (w.hdr x).N = (w.hdr y).N →
      ((w.hdr y).data = (w.hdr y).inl → (w.hdr y).inl = (w.hdr x).inl) →
      ((w.hdr x).data = (w.hdr x).inl → (w.hdr x).inl = (w.hdr y).inl) →
      ((w.hdr y).data ≠ (w.hdr y).inl → a = (w.hdr y).alloc) →
      (exchW w c o a1 a2).hdr x = { w.hdr x with data := (w.hdr y).data, cap := (w.hdr y).cap, size := (w.hdr y).size, alloc := a } →
      VecOK cfg (exchW w c o a1 a2) x := by
    intro x y a hvx hvy hNxy hyi hxi hax hhx
    refine hvx.takeover hvy hl hNxy hyi hax hhx rfl rfl rfl (fun hyh => ?_)
    -- `x`'s in-object buffer is idle: as before when `x` was on the heap, otherwise it is `y`'s as well
    by_cases hxh : (w.hdr x).data = (w.hdr x).inl
    · rw [hxi hxh, hNxy]; exact hvy.idle hyh
    · exact hvx.idle hxh
  have hvc' : VecOK cfg (exchW w c o a1 a2) c := side c o a1 hvc hvo hN hoi hci ha1 hhc
  have hvo' : VecOK cfg (exchW w c o a1 a2) o := side o c a2 hvo hvc hN.symm hci hoi ha2 hho
  have hf : Frame2 w (exchW w c o a1 a2) c o := by
    refine ⟨fun d h1 h2 => exchW_hdr_other w a1 a2 h1 h2, by rw [hhc]; exact ⟨rfl, rfl⟩, by rw [hho]; exact ⟨rfl, rfl⟩,
            fun b _ _ _ _ _ _ => rfl, fun b _ => rfl, Nat.le_refl _, ?_, ?_, ?_, fun b hb _ _ => hb, ?_⟩
    · rw [hhc]
      intro hne
      exact Or.inr (Or.inl ⟨rfl, fun h => hne (by rw [h]; exact hoi h)⟩)
    · rw [hho]
      intro hne
      exact Or.inl ⟨rfl, fun h => hne (by rw [h]; exact hci h)⟩
    · rw [hhc, hho]
      intro h1 _
      exact (hs.ok.sep o ho c hc hoc).data (fun h => h1 (by rw [h]; exact hoi h))
    · intro b hb
      rw [hhc, hho]
      by_cases h1 : b = (w.hdr o).data
      · exact Or.inl h1
      · by_cases h2 : b = (w.hdr c).data
        · exact Or.inr (Or.inl h2)
        · exact Or.inr (Or.inr ⟨hb, h2, h1⟩)
  refine ⟨hs.step2 hc ho hco hf hvc' hvo' (hl.with_hdr _) rfl, fun xs hx => hx.of_same rfl (by rw [hhc]) (by rw [hhc]),
          fun xs hx => hx.of_same rfl (by rw [hho]) (by rw [hho]), ?_, rfl, rfl⟩
  intro d hd hdc hdo xs hx
  exact hs.ok.holds_other2 hc ho hf hvc' hvo' hd hdc hdo hx

theorem maybeSwapAlloc_run (cfg : Cfg) (c o : Nat) (hoc : o ≠ c) (w : World α) :
    maybeSwapAlloc cfg c o w = .ok () { w with hdr :=
      (upd (upd w.hdr c { w.hdr c with alloc := (maybeSwap cfg.policy (w.hdr c).alloc (w.hdr o).alloc).1 })
        o { w.hdr o with alloc := (maybeSwap cfg.policy (w.hdr c).alloc (w.hdr o).alloc).2 }) } :=
  modV2_run c o hoc (fun v => { v with alloc := (maybeSwap cfg.policy (w.hdr c).alloc (w.hdr o).alloc).1 })
    (fun v => { v with alloc := (maybeSwap cfg.policy (w.hdr c).alloc (w.hdr o).alloc).2 }) w

theorem swapAllocation_run (cfg : Cfg) (c o : Nat) (hco : c ≠ o) (w : World α) :
    (swapAllocation c o >>= fun _ => maybeSwapAlloc cfg c o) w =
      .ok () (exchW w c o (maybeSwap cfg.policy (w.hdr c).alloc (w.hdr o).alloc).1 (maybeSwap cfg.policy (w.hdr c).alloc (w.hdr o).alloc).2) := by
  have hoc : o ≠ c := fun h => hco h.symm
  -- evaluate the four header rewrites, then merge the two rewrites of each header
  refine Eq.trans (b := Res.ok () { w with hdr := _ }) rfl ?_
  simp only [upd_same, upd_other _ _ _ _ hoc, upd_other _ _ _ _ hco, upd_upd, upd_comm _ hoc]
  rfl

/-- what the allocators must satisfy for a buffer to change hands in a swap: they are exchanged too, or they are equal -/
def SwapAllocOK (cfg : Cfg) (w : World α) (c o : Nat) : Prop :=
  cfg.policy.pocs = true ∨ (w.hdr c).alloc = (w.hdr o).alloc

theorem SwapAllocOK.fst {cfg : Cfg} {w : World α} {c o : Nat} (h : SwapAllocOK cfg w c o) :
    (maybeSwap cfg.policy (w.hdr c).alloc (w.hdr o).alloc).1 = (w.hdr o).alloc := by
  unfold maybeSwap
  rcases h with h | h
  · simp [h]
  · by_cases hp : cfg.policy.pocs = true <;> simp [hp, h]

theorem SwapAllocOK.snd {cfg : Cfg} {w : World α} {c o : Nat} (h : SwapAllocOK cfg w c o) :
    (maybeSwap cfg.policy (w.hdr c).alloc (w.hdr o).alloc).2 = (w.hdr c).alloc := by
  unfold maybeSwap
  rcases h with h | h
  · simp [h]
  · by_cases hp : cfg.policy.pocs = true <;> simp [hp, h]

def SwapPost (cfg : Cfg) (w : World α) (U A : List Nat) (c o : Nat) (w' : World α) : Prop :=
  SysAll cfg w' U A ∧ (∀ xs, Holds w o xs → Holds w' c xs) ∧ (∀ xs, Holds w c xs → Holds w' o xs) ∧
    (∀ d ∈ A, d ≠ c → d ≠ o → ∀ xs, Holds w d xs → Holds w' d xs) ∧ w'.live = w.live

def SwapFail (cfg : Cfg) (w : World α) (U A : List Nat) (c o : Nat) (e : Exc) (w' : World α) : Prop :=
  e = .elem ∧ SysAll cfg w' U A ∧ (∃ ys, Holds w' c ys) ∧ (∃ ys, Holds w' o ys) ∧
    (∀ d ∈ A, d ≠ c → d ≠ o → ∀ xs, Holds w d xs → Holds w' d xs) ∧ w'.live = w.live

theorem SwapPost.symm {cfg : Cfg} {w w' : World α} {U A : List Nat} {c o : Nat} (h : SwapPost cfg w U A o c w') : SwapPost cfg w U A c o w' :=
  ⟨h.1, h.2.2.1, h.2.1, fun d hd h1 h2 => h.2.2.2.1 d hd h2 h1, h.2.2.2.2⟩

theorem SwapFail.symm {cfg : Cfg} {w w' : World α} {U A : List Nat} {c o : Nat} {e : Exc} (h : SwapFail cfg w U A o c e w') : SwapFail cfg w U A c o e w' :=
  ⟨h.1, h.2.1, h.2.2.2.1, h.2.2.1, fun d hd h1 h2 => h.2.2.2.2.1 d hd h2 h1, h.2.2.2.2.2⟩

theorem handoverHdr_run (c o : Nat) (hco : c ≠ o) (od ocap oi oN : Nat) (w : World α) :
    (setDataPtr c od >>= fun _ => setCapacity c ocap >>= fun _ => setDataPtr o oi >>= fun _ => setCapacity o oN >>= fun _ =>
      swapSize c o) w =
      .ok () { w with hdr := upd (upd w.hdr c { w.hdr c with data := od, cap := ocap, size := (w.hdr o).size }) o
                                  { w.hdr o with data := oi, cap := oN, size := (w.hdr c).size } } := by
  have hoc : o ≠ c := fun h => hco h.symm
  refine Eq.trans (b := Res.ok () { w with hdr := _ }) rfl ?_
  simp only [upd_same, upd_other _ _ _ _ hoc, upd_other _ _ _ _ hco, upd_upd, upd_comm _ hoc]

theorem handover_sat (cfg : Cfg) (c o : Nat) (hco : c ≠ o) (w : World α)
    (hobj : ∀ i, 0 ≤ i → i < (w.hdr c).size → IsObj w (w.hdr c).data i) (hraw : ∀ i, 0 ≤ i → i < (w.hdr c).size → IsRaw w (w.hdr o).inl i) :
    (((uninitializedMove cfg false (w.hdr c).data 0 (w.hdr c).size (w.hdr o).inl 0 >>= fun _ =>
      destroyRange cfg (w.hdr c).data 0 (w.hdr c).size >>= fun _ =>
      setDataPtr c (w.hdr o).data >>= fun _ => setCapacity c (w.hdr o).cap >>= fun _ =>
      setDataPtr o (w.hdr o).inl >>= fun _ => setCapacity o (w.hdr o).N >>= fun _ =>
      swapSize c o) >>= fun _ => maybeSwapAlloc cfg c o) w).sat
      (fun _ w' => ∃ w2, (Rows w w2 (w.hdr o).inl (w.hdr c).data 0 (w.hdr c).size ∧
            (∀ i, 0 ≤ i → i < (w.hdr c).size → (w2.mem (w.hdr o).inl)[i]? = (w.mem (w.hdr c).data)[i]?) ∧
            ∀ i, 0 ≤ i → i < (w.hdr c).size → IsRaw w2 (w.hdr c).data i) ∧
          w' = { w2 with hdr := upd (upd w.hdr c { w.hdr c with data := (w.hdr o).data, cap := (w.hdr o).cap, size := (w.hdr o).size,
                                                                 alloc := (maybeSwap cfg.policy (w.hdr c).alloc (w.hdr o).alloc).1 })
                                     o { w.hdr o with data := (w.hdr o).inl, cap := (w.hdr o).N, size := (w.hdr c).size,
                                                      alloc := (maybeSwap cfg.policy (w.hdr c).alloc (w.hdr o).alloc).2 } })
      (fun e w' => e = .elem ∧ Rows w w' (w.hdr o).inl (w.hdr c).data 0 (w.hdr c).size ∧
          (∀ i, 0 ≤ i → i < (w.hdr c).size → IsRaw w' (w.hdr o).inl i) ∧ ∀ i, 0 ≤ i → i < (w.hdr c).size → IsObj w' (w.hdr c).data i) := by
  have hoc : o ≠ c := fun h => hco h.symm
  refine sat_bind (Q := fun _ w1 => ∃ w2, (Rows w w2 (w.hdr o).inl (w.hdr c).data 0 (w.hdr c).size ∧
        (∀ i, 0 ≤ i → i < (w.hdr c).size → (w2.mem (w.hdr o).inl)[i]? = (w.mem (w.hdr c).data)[i]?) ∧
        ∀ i, 0 ≤ i → i < (w.hdr c).size → IsRaw w2 (w.hdr c).data i) ∧
      w1 = { w2 with hdr := upd (upd w.hdr c { w.hdr c with data := (w.hdr o).data, cap := (w.hdr o).cap, size := (w.hdr o).size }) o
                                 { w.hdr o with data := (w.hdr o).inl, cap := (w.hdr o).N, size := (w.hdr c).size } })
    ?_ ?_ (fun _ _ h => h)
  · rw [← bind_assoc_run]
    refine sat_bind (relocate_then_destroy_sat cfg (w.hdr c).data (w.hdr o).inl 0 (w.hdr c).size w hobj hraw) (fun _ w2 hm => ?_) (fun _ _ h => h)
    rw [handoverHdr_run c o hco, hm.1.ctl.hdr]
    exact Exists.intro w2 ⟨hm, rfl⟩
  · intro _ w1 ⟨w2, hm, hw1⟩
    rw [hw1, maybeSwapAlloc_run cfg c o hoc]
    simp only [upd_upd_fst _ hco, upd_same, upd2_upd2 _ hco]
    exact Exists.intro w2 ⟨hm, rfl⟩

theorem SysAll.swapHandover {cfg : Cfg} {w : World α} {U A : List Nat} {c o : Nat} (hs : SysAll cfg w U A)
    (hc : c ∈ A) (ho : o ∈ A) (hco : c ≠ o) (hN : (w.hdr c).N = (w.hdr o).N)
    (hcin : (w.hdr c).data = (w.hdr c).inl) (hoh : (w.hdr o).data ≠ (w.hdr o).inl) (hal : SwapAllocOK cfg w c o) :
    (((uninitializedMove cfg false (w.hdr c).data 0 (w.hdr c).size (w.hdr o).inl 0 >>= fun _ =>
      destroyRange cfg (w.hdr c).data 0 (w.hdr c).size >>= fun _ =>
      setDataPtr c (w.hdr o).data >>= fun _ => setCapacity c (w.hdr o).cap >>= fun _ =>
      setDataPtr o (w.hdr o).inl >>= fun _ => setCapacity o (w.hdr o).N >>= fun _ =>
      swapSize c o) >>= fun _ => maybeSwapAlloc cfg c o) w).sat
      (fun _ w' => SwapPost cfg w U A c o w') (fun e w' => SwapFail cfg w U A c o e w') := by
  have hoc : o ≠ c := fun h => hco h.symm
  have hvc := hs.ok.vec c hc
  have hvo := hs.ok.vec o ho
  have hl := hs.ok.led
  have hci5 := hvc.inl_lt
  have hccap : (w.hdr c).cap = (w.hdr c).N := (hvc.inl_iff).mpr hcin
  have hodd := (hvo.data_odd hl hoh).1
  obtain ⟨hoidle_len, hoidle_raw⟩ := hvo.idle hoh
  have hcsN : (w.hdr c).size ≤ (w.hdr o).N := by have := hvc.size_le; omega
  refine Res.sat_mono (handover_sat cfg c o hco w (fun i _ hi => hvc.objs i hi)
    (fun i _ hi => hoidle_raw i (Nat.lt_of_lt_of_le hi hcsN))) ?_ ?_
  · intro _ w' ⟨w2, ⟨hm, hdst, hsrc⟩, hw'⟩
    rw [hal.fst, hal.snd] at hw'
    have hhc : w'.hdr c = { w.hdr c with data := (w.hdr o).data, cap := (w.hdr o).cap, size := (w.hdr o).size, alloc := (w.hdr o).alloc } := by
      rw [hw']; exact upd_upd_fst _ hco _ _
    have hho : w'.hdr o = { w.hdr o with data := (w.hdr o).inl, cap := (w.hdr o).N, size := (w.hdr c).size, alloc := (w.hdr c).alloc } := by
      rw [hw']; exact upd_same _ _ _
    have hmem : w'.mem = w2.mem := by rw [hw']
    have hc' : Ctl0 w w' := by rw [hw']; exact hm.ctl.to0.with_hdr _
    -- the two buffers that changed are the two in-object buffers
    have hmem_od : w'.mem (w.hdr o).data = w.mem (w.hdr o).data := by rw [hmem]; exact hm.mem_other hoh (by rw [hcin]; omega)
    have hrest : ∀ i, (w.hdr c).size ≤ i → ∀ b, (w'.mem b)[i]? = (w.mem b)[i]? := fun i hi b => by
      rw [hmem]; exact hm.rest b i (Or.inr (Or.inr hi))
    have hvc' : VecOK cfg w' c := by
      refine hvc.takeover hvo hl hN (fun h => absurd h hoh) (fun _ => rfl) hhc hmem_od hc'.live hc'.owner (fun _ => ?_)
      rw [← hcin]
      refine ⟨by rw [hmem, hm.ctl.len, hvc.len, hccap], fun i hi => ?_⟩
      by_cases h : i < (w.hdr c).size
      · exact isRaw_of_eq (by rw [hmem]) (hsrc i (Nat.zero_le i) h)
      · exact isRaw_of_eq (hrest i (by omega) _) (hvc.raws i (by omega) (by omega))
    have hvo' : VecOK cfg w' o := by
      refine VecOK.mk_inline (v := { w.hdr o with alloc := (w.hdr c).alloc }) hho hcsN hvo.inl_lt (by rw [hmem, hm.ctl.len]; exact hoidle_len) ?_ ?_
      · intro i hi
        exact isObj_of_eq (by rw [hmem]; exact hdst i (Nat.zero_le i) hi) (hvc.objs i hi)
      · intro i h1 h2
        exact isRaw_of_eq (hrest i h1 _) (hoidle_raw i h2)
    have hf : Frame2 w w' c o := by
      refine ⟨fun d h1 h2 => by rw [hw']; exact (upd_other _ _ _ _ h2).trans (upd_other _ _ _ _ h1), by rw [hhc]; exact ⟨rfl, rfl⟩,
              by rw [hho]; exact ⟨rfl, rfl⟩, fun b h1 _ _ h4 _ _ => by rw [hmem]; exact hm.mem_other h4 h1,
              fun b _ => by rw [hc'.owner], by rw [hc'.next]; exact Nat.le_refl _, ?_, ?_, ?_, fun b hb _ _ => by rw [hc'.live]; exact hb, ?_⟩
      · rw [hhc]
        intro _
        exact Or.inr (Or.inl ⟨rfl, hoh⟩)
      · rw [hho]
        intro h; exact absurd rfl h
      · rw [hho]
        intro _ h; exact absurd rfl h
      · intro b hb
        rw [hc'.live] at hb
        rw [hhc, hho]
        by_cases h1 : b = (w.hdr o).data
        · exact Or.inl h1
        · have := (hl.live_ok b hb).1
          exact Or.inr (Or.inr ⟨hb, by rw [hcin]; omega, h1⟩)
    refine ⟨hs.step2 hc ho hco hf hvc' hvo' (hl.of_ctl0 hc') hc'.ub, fun xs hx => hx.of_same hmem_od (by rw [hhc]) (by rw [hhc]), ?_, ?_, hc'.live⟩
    · intro xs hx
      refine hx.of_slots (by rw [hho]) (fun i hi => ?_)
      rw [hho, hmem]; exact hdst i (Nat.zero_le i) hi
    · intro d hd hdc hdo xs hx
      exact hs.ok.holds_other2 hc ho hf hvc' hvo' hd hdc hdo hx
  · -- only live elements of `c` were touched
    intro e w' ⟨he, hf, hdst, hsrc⟩
    have hb : Basic cfg w w' c := by
      refine basic_of_touched cfg (P := fun b i => b = (w.hdr c).data ∧ i < (w.hdr c).size) hvc hl
        ⟨hf.ctl, fun b i hn => ?_, fun b i hp _ => ?_⟩ (fun b i h => h)
      · by_cases hd : b = (w.hdr o).inl ∧ i < (w.hdr c).size
        · rw [hd.1]; exact (hdst i (Nat.zero_le i) hd.2).trans (hoidle_raw i (Nat.lt_of_lt_of_le hd.2 hcsN)).symm
        · by_cases hi : i < (w.hdr c).size
          · exact hf.rest b i (Or.inl ⟨fun x => hd ⟨x, hi⟩, fun x => hn ⟨x, hi⟩⟩)
          · exact hf.rest b i (Or.inr (Or.inr (Nat.le_of_not_lt hi)))
      · rw [hp.1]; exact hsrc i (Nat.zero_le i) hp.2
    have hs1 := hs.step hc hb
    exact ⟨he, hs1, (hs1.ok.vec c hc).holds_exists, (hs1.ok.vec o ho).holds_exists,
            fun d hd hdc _ xs hx => hs.ok.holds_other hc hb hd hdc hx, hf.ctl.live⟩

theorem SysAll.maybeSwapAlloc_inline {cfg : Cfg} {w : World α} {U A : List Nat} {c o : Nat} (hs : SysAll cfg w U A)
    (hc : c ∈ A) (ho : o ∈ A) (hco : c ≠ o)
    (hok : ((w.hdr c).data = (w.hdr c).inl ∧ (w.hdr o).data = (w.hdr o).inl) ∨ cfg.policy.pocs = false) :
    ∃ w', maybeSwapAlloc cfg c o w = .ok () w' ∧ SysAll cfg w' U A ∧ w'.mem = w.mem ∧ w'.live = w.live ∧
      ∀ d, (w'.hdr d).data = (w.hdr d).data ∧ (w'.hdr d).size = (w.hdr d).size ∧ (w'.hdr d).cap = (w.hdr d).cap := by
  have hoc : o ≠ c := fun h => hco h.symm
  refine ⟨_, maybeSwapAlloc_run cfg c o hoc w, ?_, rfl, rfl, ?_⟩
  · have hk1 : (w.hdr c).data = (w.hdr c).inl ∨ (maybeSwap cfg.policy (w.hdr c).alloc (w.hdr o).alloc).1 = (w.hdr c).alloc := by
      rcases hok with h | h
      · exact Or.inl h.1
      · right; unfold maybeSwap; simp [h]
    have hk2 : (w.hdr o).data = (w.hdr o).inl ∨ (maybeSwap cfg.policy (w.hdr c).alloc (w.hdr o).alloc).2 = (w.hdr o).alloc := by
      rcases hok with h | h
      · exact Or.inl h.2
      · right; unfold maybeSwap; simp [h]
    have h1 := hs.setAlloc hc (maybeSwap cfg.policy (w.hdr c).alloc (w.hdr o).alloc).1 hk1
    have e : (upd w.hdr c { w.hdr c with alloc := (maybeSwap cfg.policy (w.hdr c).alloc (w.hdr o).alloc).1 }) o = w.hdr o := upd_other _ _ _ _ hoc
    have h2 := h1.setAlloc ho (maybeSwap cfg.policy (w.hdr c).alloc (w.hdr o).alloc).2 (by
      show (upd w.hdr c _ o).data = (upd w.hdr c _ o).inl ∨ _ = (upd w.hdr c _ o).alloc
      rw [e]; exact hk2)
    simp only [] at h2
    rw [e] at h2
    exact h2
  · intro d
    by_cases hdc : d = c
    · subst hdc; simp [upd_other _ _ _ _ hco]
    · by_cases hdo : d = o
      · subst hdo; simp
      · simp [upd_other _ _ _ _ hdc, upd_other _ _ _ _ hdo]

/-- the allocator exchange leaves every container's contents where they are -/
theorem SysAll.maybeSwapAlloc_keeps {cfg : Cfg} {w : World α} {U A : List Nat} {c o : Nat} (hs : SysAll cfg w U A)
    (hc : c ∈ A) (ho : o ∈ A) (hco : c ≠ o)
    (hok : ((w.hdr c).data = (w.hdr c).inl ∧ (w.hdr o).data = (w.hdr o).inl) ∨ cfg.policy.pocs = false) :
    ∃ w', maybeSwapAlloc cfg c o w = .ok () w' ∧ SysAll cfg w' U A ∧ w'.live = w.live ∧
      ∀ d xs, Holds w d xs → Holds w' d xs := by
  obtain ⟨w', hrun, hs', hm, hlv, hh⟩ := hs.maybeSwapAlloc_inline hc ho hco hok
  exact ⟨w', hrun, hs', hlv, fun d xs hx => hx.of_same (by rw [hm]) (hh d).1 (hh d).2.1⟩

theorem pocs_false_of_not_swappable {p : PolicyEnv} (h : ¬ allocationsAreSwappable p = true) : p.pocs = false := by
  unfold allocationsAreSwappable at h
  cases hp : p.pocs
  · rfl
  · rw [hp] at h; simp at h

theorem swapElements_nil (cfg : Cfg) (c o : Nat) (hco : c ≠ o) (w : World α) (h1 : (w.hdr c).size = 0) (h2 : (w.hdr o).size = 0) :
    swapElements cfg c o w = .ok () w := by
  have e1 : ({ w.hdr c with size := (w.hdr o).size } : Vec) = w.hdr c := by rw [h2, ← h1]
  have e2 : ({ w.hdr o with size := (w.hdr c).size } : Vec) = w.hdr o := by rw [h1, ← h2]
  unfold swapElements
  rw [getV_bind, getV_bind, h1, h2]
  show swapSize c o w = _
  rw [swapSize_run c o (Ne.symm hco), e1, e2, upd_self, upd_self]

theorem SysAll.swapElements {cfg : Cfg} {w : World α} {U A : List Nat} {c o : Nat} (hs : SysAll cfg w U A)
    (hc : c ∈ A) (ho : o ∈ A) (hco : c ≠ o)
    (hok : ((w.hdr c).data = (w.hdr c).inl ∧ (w.hdr o).data = (w.hdr o).inl) ∨ cfg.policy.pocs = false)
    (hle : (w.hdr c).size ≤ (w.hdr o).size) (hfit : (w.hdr o).size ≤ (w.hdr c).cap) :
    ((swapElements cfg c o >>= fun _ => maybeSwapAlloc cfg c o) w).sat
      (fun _ w' => SwapPost cfg w U A c o w') (fun e w' => SwapFail cfg w U A c o e w') := by
  have hoc : o ≠ c := fun h => hco h.symm
  by_cases hz : (w.hdr o).size = 0
  ·
    have hzc : (w.hdr c).size = 0 := by omega
    rw [bind_run, swapElements_nil cfg c o hco w hzc hz]
    obtain ⟨w', hrun, hs', hlv, keep⟩ := hs.maybeSwapAlloc_keeps hc ho hco hok
    show (maybeSwapAlloc cfg c o w).sat _ _
    rw [hrun]
    refine ⟨hs', ?_, ?_, fun d _ _ _ => keep d, hlv⟩
    · intro xs hx
      rw [hx.eq_nil hz]; exact keep c [] (Holds.nil hzc)
    · intro xs hx
      rw [hx.eq_nil hzc]; exact keep o [] (Holds.nil hz)
  ·
    obtain ⟨hd, hi⟩ := hs.ok.apart hc ho hoc hz
    refine sat_bind (swapElements_sat cfg c o w (hs.ok.vec c hc) hs.ok.led (hs.ok.vec o ho) hco hle hfit hd hi)
      (fun _ w1 ⟨hb1, hb2, hhc1, hho1, hvalc, hvalo, hlv1, _⟩ => ?_) (fun e w1 ⟨he, hb1, hb2, _, hlv1, _⟩ => ?_)
    · obtain ⟨hs1, _, _, hother1⟩ := hs.two_steps hc ho hb1 hb2
      obtain ⟨w', hrun, hs', hlv, keep⟩ := hs1.maybeSwapAlloc_keeps hc ho hco (by rw [hhc1, hho1]; exact hok)
      rw [hrun]
      refine ⟨hs', ?_, ?_, fun d hd' hdc hdo xs hx => keep d xs (hother1 d hd' hdc hdo xs hx), by rw [hlv, hlv1]⟩
      · intro xs hx
        exact keep c xs (hx.of_slots (by rw [hhc1]) (fun i hi' => by rw [hhc1]; exact hvalc i hi'))
      · intro xs hx
        exact keep o xs (hx.of_slots (by rw [hho1]) (fun i hi' => by rw [hho1]; exact hvalo i hi'))
    · obtain ⟨hs1, hzc, hzo, hother1⟩ := hs.two_steps hc ho hb1 hb2
      exact ⟨he, hs1, hzc, hzo, hother1, hlv1⟩

theorem bind_maybeSwapAlloc_comm (cfg : Cfg) (m : M α Unit) (c o : Nat) (hco : c ≠ o) (w : World α) :
    (m >>= fun _ => maybeSwapAlloc cfg c o) w = (m >>= fun _ => maybeSwapAlloc cfg o c) w := by
  rw [bind_run, bind_run]
  cases m w with
  | thrown e w1 => rfl
  | ok u w1 =>
    show maybeSwapAlloc cfg c o w1 = maybeSwapAlloc cfg o c w1
    rw [maybeSwapAlloc_run cfg c o hco.symm, maybeSwapAlloc_run cfg o c hco, upd_comm _ hco]
    unfold maybeSwap
    cases cfg.policy.pocs <;> rfl

theorem SysAll.swapElementsOrdered {cfg : Cfg} {w : World α} {U A : List Nat} {c o : Nat} (hs : SysAll cfg w U A)
    (hc : c ∈ A) (ho : o ∈ A) (hco : c ≠ o)
    (hok : ((w.hdr c).data = (w.hdr c).inl ∧ (w.hdr o).data = (w.hdr o).inl) ∨ cfg.policy.pocs = false)
    (hfitc : (w.hdr o).size ≤ (w.hdr c).cap) (hfito : (w.hdr c).size ≤ (w.hdr o).cap) :
    (((if decide ((w.hdr c).size < (w.hdr o).size) = true then SvModel.swapElements cfg c o else SvModel.swapElements cfg o c) >>= fun _ =>
        maybeSwapAlloc cfg c o) w).sat
      (fun _ w' => SwapPost cfg w U A c o w') (fun e w' => SwapFail cfg w U A c o e w') := by
  by_cases hlt : (w.hdr c).size < (w.hdr o).size
  · rw [if_pos (decide_eq_true hlt)]
    exact hs.swapElements hc ho hco hok (Nat.le_of_lt hlt) hfitc
  · rw [if_neg (by simpa using hlt), bind_maybeSwapAlloc_comm cfg _ c o hco]
    exact Res.sat_mono (hs.swapElements ho hc hco.symm (hok.imp And.symm id) (Nat.le_of_not_lt hlt) hfito)
      (fun _ _ h => h.symm) (fun _ _ h => h.symm)

theorem SysAll.swapDefault {cfg : Cfg} {w : World α} {U A : List Nat} {c o : Nat} (hs : SysAll cfg w U A)
    (hc : c ∈ A) (ho : o ∈ A) (hco : c ≠ o) (hN : (w.hdr c).N = (w.hdr o).N) (hcap : (w.hdr c).cap ≤ (w.hdr o).cap)
    (hal : SwapAllocOK cfg w c o) :
    (swapDefault cfg c o w).sat (fun _ w' => SwapPost cfg w U A c o w') (fun e w' => SwapFail cfg w U A c o e w') := by
  have hvc := hs.ok.vec c hc
  have hvo := hs.ok.vec o ho
  unfold SvModel.swapDefault
  rw [getV_bind, getV_bind]
  rw [guard_swapDefault_0_eq, guard_swapDefault_1_eq, guard_swapDefault_2_eq]
  by_cases hch : (w.hdr c).N < (w.hdr c).cap
  ·
    rw [if_pos (decide_eq_true hch)]
    have hcheap := (hvc.heap_iff).mp hch
    have hoheap := (hvo.heap_iff).mp (by omega)
    rw [swapAllocation_run cfg c o hco, hal.fst, hal.snd]
    obtain ⟨a, b, c', d, _, f⟩ := hs.exchange hc ho hco hN (fun h => absurd h hoheap) (fun h => absurd h hcheap) (w.hdr o).alloc (w.hdr c).alloc
      (fun _ => rfl) (fun _ => rfl)
    exact ⟨a, b, c', d, f⟩
  · rw [if_neg (by simpa using hch)]
    have hcin : (w.hdr c).data = (w.hdr c).inl := (hvc.inl_iff).mp (by have := hvc.cap_ge; omega)
    by_cases hoh : (w.hdr o).N < (w.hdr o).cap
    · rw [if_pos (decide_eq_true hoh)]
      exact hs.swapHandover hc ho hco hN hcin ((hvo.heap_iff).mp hoh) hal
    · rw [if_neg (by simpa using hoh)]
      have hoin : (w.hdr o).data = (w.hdr o).inl := (hvo.inl_iff).mp (by have := hvo.cap_ge; omega)
      have := hvo.size_le; have := hvc.size_le
      have : (w.hdr o).cap = (w.hdr o).N := (hvo.inl_iff).mpr hoin
      have : (w.hdr c).cap = (w.hdr c).N := (hvc.inl_iff).mpr hcin
      exact hs.swapElementsOrdered hc ho hco (Or.inl ⟨hcin, hoin⟩) (by omega) (by omega)

/-- SWAP (member `swap`) of two constructed containers of the same type whose allocators propagate on swap or are equal
    (the case the standard defines): every path except `swap_unequal_no_propagate`.
    `hnull`: containers without in-object capacity (`N = 0`) have the same, null, in-object block. -/
theorem SysAll.swap {cfg : Cfg} {w : World α} {U A : List Nat} {c o : Nat} (hs : SysAll cfg w U A)
    (hc : c ∈ A) (ho : o ∈ A) (hco : c ≠ o) (hN : (w.hdr c).N = (w.hdr o).N)
    (hnull : (w.hdr c).N = 0 → (w.hdr c).inl = (w.hdr o).inl)
    (hal : SwapAllocOK cfg w c o) :
    (SvModel.swap cfg c o w).sat (fun _ w' => SwapPost cfg w U A c o w') (fun e w' => SwapFail cfg w U A c o e w') := by
  have hoc : o ≠ c := fun h => hco h.symm
  have hal' : SwapAllocOK cfg w o c := by
    rcases hal with h | h
    · exact Or.inl h
    · exact Or.inr h.symm
  have fwd : (w.hdr c).cap ≤ (w.hdr o).cap →
      (SvModel.swapDefault cfg c o w).sat (fun _ w' => SwapPost cfg w U A c o w') (fun e w' => SwapFail cfg w U A c o e w') :=
    fun h => SysAll.swapDefault hs hc ho hco hN h hal
  have bwd : (w.hdr o).cap ≤ (w.hdr c).cap →
      (SvModel.swapDefault cfg o c w).sat (fun _ w' => SwapPost cfg w U A c o w') (fun e w' => SwapFail cfg w U A c o e w') :=
    fun h => Res.sat_mono (SysAll.swapDefault hs ho hc hoc hN.symm h hal') (fun _ _ h => SwapPost.symm h) (fun _ _ h => SwapFail.symm h)
  unfold SvModel.swap
  rw [bind_run, getV_run]; simp only []
  rw [bind_run, getV_run]; simp only []
  rw [guard_swap1_0_eq, guard_swap2_0_eq, guard_swap2_1_eq, guard_swap2_2_eq]
  by_cases hsw : allocationsAreSwappable cfg.policy = true
  · rw [if_pos hsw]
    by_cases hz : (w.hdr c).N = 0
    · rw [if_pos hz]
      rw [swapAllocation_run cfg c o hco, hal.fst, hal.snd]
      obtain ⟨a, b, c', d, _, f⟩ := hs.exchange hc ho hco hN (fun _ => (hnull hz).symm) (fun _ => hnull hz) (w.hdr o).alloc (w.hdr c).alloc
        (fun _ => rfl) (fun _ => rfl)
      exact ⟨a, b, c', d, f⟩
    · rw [if_neg hz]
      by_cases hlt : (w.hdr c).cap < (w.hdr o).cap
      · rw [if_pos (decide_eq_true hlt)]; exact fwd (Nat.le_of_lt hlt)
      · rw [if_neg (by simpa using hlt)]; exact bwd (by omega)
  · rw [if_neg hsw]
    have hp : cfg.policy.pocs = false := pocs_false_of_not_swappable hsw
    have heq : (w.hdr c).alloc = (w.hdr o).alloc := by
      rcases hal with h | h
      · rw [hp] at h; cases h
      · exact h
    have hb : ((w.hdr o).alloc == (w.hdr c).alloc) = true := by rw [heq]; exact beq_self_eq_true _
    rw [hb]
    simp only [if_true]
    by_cases hlt : (w.hdr c).cap < (w.hdr o).cap
    · rw [if_pos (decide_eq_true hlt)]; exact fwd (Nat.le_of_lt hlt)
    · rw [if_neg (by simpa using hlt)]; exact bwd (by omega)

end SvModel
