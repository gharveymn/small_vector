/-
Specification lemmas of the element-level primitives (Prim.lean), for every fault list:
normal outcome = exact slot-wise effect, exceptional outcome = nothing but the fault schedule changed.
-/
import SvModel.Prim
import SvModel.Proofs.Hoare

namespace SvModel
variable {α : Type}

/-- everything but memory contents, the fault schedule and the trace is unchanged; block lengths are unchanged -/
structure Ctl (w w' : World α) : Prop where
  hdr   : w'.hdr = w.hdr
  owner : w'.owner = w.owner
  live  : w'.live = w.live
  next  : w'.next = w.next
  ntmp  : w'.ntmp = w.ntmp
  ub    : w'.ub = w.ub
  len   : ∀ b, (w'.mem b).length = (w.mem b).length

theorem Ctl.refl (w : World α) : Ctl w w := ⟨rfl, rfl, rfl, rfl, rfl, rfl, fun _ => rfl⟩
theorem Ctl.trans {a b c : World α} (h1 : Ctl a b) (h2 : Ctl b c) : Ctl a c :=
  ⟨h2.hdr.trans h1.hdr, h2.owner.trans h1.owner, h2.live.trans h1.live, h2.next.trans h1.next,
   h2.ntmp.trans h1.ntmp, h2.ub.trans h1.ub, fun b => (h2.len b).trans (h1.len b)⟩

def Quiet (w w' : World α) : Prop := w'.mem = w.mem ∧ Ctl w w'

theorem Quiet.refl (w : World α) : Quiet w w := ⟨rfl, Ctl.refl w⟩
theorem Quiet.trans {a b c : World α} (h1 : Quiet a b) (h2 : Quiet b c) : Quiet a c :=
  ⟨h2.1.trans h1.1, h1.2.trans h2.2⟩

theorem tick_sat (on : Bool) (e : Exc) (w : World α) :
    (tick on e w).sat (fun _ w' => Quiet w w') (fun e' w' => (e' = e ∧ on = true) ∧ Quiet w w') := by
  unfold tick
  cases on
  · exact Quiet.refl w
  · match hf : w.faults with
    | [] => simp only [if_true]; exact Quiet.refl w
    | 0 :: fs => simp only [if_true]; exact ⟨⟨rfl, trivial⟩, rfl, ⟨rfl, rfl, rfl, rfl, rfl, rfl, fun _ => rfl⟩⟩
    | (n+1) :: fs => simp only [if_true]; exact ⟨rfl, ⟨rfl, rfl, rfl, rfl, rfl, rfl, fun _ => rfl⟩⟩

/-- `emit` appends one event to the trace and changes nothing else -/
theorem emit_sat (e : Ev) (w : World α) :
    (emit e w).sat (fun _ w' => Quiet w w' ∧ w'.trace = w.trace ++ [e]) (fun _ _ => False) := by
  show Quiet w _ ∧ _
  exact ⟨⟨rfl, rfl, rfl, rfl, rfl, rfl, rfl, fun _ => rfl⟩, rfl⟩

theorem get_upd_set (f : Nat → List (Slot α)) (blk idx : Nat) (x : Slot α) (b i : Nat) :
    (upd f blk ((f blk).set idx x) b)[i]? =
      if b = blk ∧ i = idx ∧ idx < (f blk).length then some x else (f b)[i]? := by
  by_cases hb : b = blk
  · subst hb
    simp only [upd_same, true_and]
    by_cases hi : i = idx
    · subst hi
      by_cases hl : i < (f b).length
      · simp [hl]
      · simp [hl]
    · simp only [hi, false_and, if_false]
      rw [List.getElem?_set_ne (Ne.symm hi)]
  · simp [upd, hb]

theorem len_upd_set (f : Nat → List (Slot α)) (blk idx : Nat) (x : Slot α) (b : Nat) :
    (upd f blk ((f blk).set idx x) b).length = (f b).length := by
  by_cases hb : b = blk
  · subst hb; simp
  · simp [upd, hb]

theorem lt_of_get {l : List (Slot α)} {i : Nat} {x : Slot α} (h : l[i]? = some x) : i < l.length :=
  (List.getElem?_eq_some_iff.mp h).1

theorem readSlot_run (b i : Nat) (w : World α) (v : Val α) (h : (w.mem b)[i]? = some (.obj v)) :
    readSlot b i w = .ok v w := by
  unfold readSlot; simp only [h]

theorem putObj_run (c : Cfg) (b i : Nat) (v : Val α) (e : Ev) (w : World α) (h : (w.mem b)[i]? = some .raw) :
    putObj c b i v e w = .ok () { w with mem := upd w.mem b ((w.mem b).set i (.obj v)),
                                          trace := if c.trivial then w.trace else w.trace ++ [e] } := by
  unfold putObj; simp only [h]

theorem setObj_run (c : Cfg) (b i : Nat) (v u : Val α) (e : Ev) (w : World α) (h : (w.mem b)[i]? = some (.obj u)) :
    setObj c b i v e w = .ok () { w with mem := upd w.mem b ((w.mem b).set i (.obj v)),
                                          trace := if c.trivial then w.trace else w.trace ++ [e] } := by
  unfold setObj; simp only [h]

theorem destroyAt_run (c : Cfg) (b i : Nat) (w : World α) (v : Val α) (h : (w.mem b)[i]? = some (.obj v)) :
    destroyAt c b i w = .ok () { w with mem := upd w.mem b ((w.mem b).set i .raw),
                                         trace := if c.trivial then w.trace else w.trace ++ [.dtor b i] } := by
  unfold destroyAt; simp only [h]

theorem huskSlot_run (c : Cfg) (b i : Nat) (w : World α) (v : Val α) (h : (w.mem b)[i]? = some (.obj v)) :
    huskSlot c b i w = .ok () (if c.realMove then { w with mem := upd w.mem b ((w.mem b).set i (.obj .husk)) } else w) := by
  unfold huskSlot
  cases c.realMove <;> simp [h]

def Src.loc : Src α → Option (Nat × Nat)
  | .copyOf b i => some (b, i)
  | .moveOf b i => some (b, i)
  | _ => none

def Src.moving (c : Cfg) : Src α → Bool
  | .moveOf _ _ => c.realMove
  | _ => false

/-- the fault-point flag a construction from this source consults -/
def Src.ticks (c : Cfg) : Src α → Bool
  | .ext _ => c.tCopy
  | .extMove _ => c.tMove
  | .copyOf _ _ => c.tCopy
  | .moveOf _ _ => c.tMove
  | .value _ => c.tVctor

/-- the fault-point flag an assignment from this source consults -/
def Src.aticks (c : Cfg) : Src α → Bool
  | .ext _ => c.tCasg
  | .extMove _ => c.tMasg
  | .copyOf _ _ => c.tCasg
  | .moveOf _ _ => c.tMasg
  | .value _ => c.tCasg

def srcVal (w : World α) : Src α → Val α
  | .ext a => .val a
  | .extMove a => .val a
  | .value a => .val a
  | .copyOf b i => match (w.mem b)[i]? with | some (.obj v) => v | _ => .husk
  | .moveOf b i => match (w.mem b)[i]? with | some (.obj v) => v | _ => .husk

def SrcLive (w : World α) (s : Src α) : Prop :=
  ∀ b i, s.loc = some (b, i) → ∃ v, (w.mem b)[i]? = some (.obj v)

structure WroteFrom (c : Cfg) (w w' : World α) (blk idx : Nat) (s : Src α) : Prop where
  ctl  : Ctl w w'
  dst  : (w'.mem blk)[idx]? = some (.obj (srcVal w s))
  src  : ∀ b i, s.loc = some (b, i) → (b, i) ≠ (blk, idx) →
           (w'.mem b)[i]? = some (.obj (if s.moving c then .husk else srcVal w s))
  rest : ∀ b i, (b, i) ≠ (blk, idx) → s.loc ≠ some (b, i) → (w'.mem b)[i]? = (w.mem b)[i]?

theorem srcVal_of_loc {w : World α} {s : Src α} {b i : Nat} {v : Val α} (hl : s.loc = some (b, i))
    (h : (w.mem b)[i]? = some (.obj v)) : srcVal w s = v := by
  cases s with
  | ext a => cases hl
  | extMove a => cases hl
  | value a => cases hl
  | copyOf b' i' => cases hl; simp only [srcVal, h]
  | moveOf b' i' => cases hl; simp only [srcVal, h]

theorem set_slot (w : World α) (blk idx : Nat) (x : Slot α) (tr : List Ev) (hlt : idx < (w.mem blk).length) :
    Ctl w { w with mem := upd w.mem blk ((w.mem blk).set idx x), trace := tr } ∧
    (upd w.mem blk ((w.mem blk).set idx x) blk)[idx]? = some x ∧
    ∀ b i, (b, i) ≠ (blk, idx) → (upd w.mem blk ((w.mem blk).set idx x) b)[i]? = (w.mem b)[i]? := by
  refine ⟨⟨rfl, rfl, rfl, rfl, rfl, rfl, fun b => len_upd_set ..⟩, ?_, fun b i hne => ?_⟩
  · rw [get_upd_set, if_pos ⟨rfl, rfl, hlt⟩]
  · rw [get_upd_set, if_neg (fun ⟨h1, h2, _⟩ => hne (by rw [h1, h2]))]

/-- the element events and the deallocation event: everything an operation logs apart from allocations and the
    iterator events of the single-pass loops -/
def Ev.isStorage : Ev → Bool
  | .alloc .. | .deref .. | .incr .. => false
  | _ => true

theorem Ev.isStorage_ite (q : Bool) {a b : Ev} (ha : a.isStorage = true) (hb : b.isStorage = true) :
    (if q then a else b).isStorage = true := by
  cases q <;> simp [ha, hb]

/-- construction and assignment are one program up to the slot writer `put` (`putObj` / `setObj` with its event) and
    the fault-point flag -/
def writeSrc (c : Cfg) (put : Val α → M α Unit) (on : Bool) : Src α → M α Unit
  | .copyOf b i => tick on .elem >>= fun _ => readSlot b i >>= fun v => put v
  | .moveOf b i => tick on .elem >>= fun _ => readSlot b i >>= fun v => put v >>= fun _ => huskSlot c b i
  | .ext a => tick on .elem >>= fun _ => put (.val a)
  | .extMove a => tick on .elem >>= fun _ => put (.val a)
  | .value a => tick on .elem >>= fun _ => put (.val a)

theorem constructSrc_eq (c : Cfg) (blk idx : Nat) (s : Src α) :
    ∃ ev, ev.isStorage = true ∧ constructSrc c blk idx s = writeSrc c (fun v => putObj c blk idx v ev) (s.ticks c) s := by
  cases s <;> refine ⟨_, ?_, rfl⟩ <;> first | rfl | exact Ev.isStorage_ite _ rfl rfl

theorem assignSrc_eq (c : Cfg) (blk idx : Nat) (s : Src α) :
    ∃ ev, ev.isStorage = true ∧ assignSrc c blk idx s = writeSrc c (fun v => setObj c blk idx v ev) (s.aticks c) s := by
  cases s <;> refine ⟨_, ?_, rfl⟩ <;> first | rfl | exact Ev.isStorage_ite _ rfl rfl

theorem writeSrc_sat (c : Cfg) (blk idx : Nat) (put : Val α → M α Unit) (on : Bool) (s : Src α) (w : World α)
    (hput : ∀ v (w1 : World α), w1.mem = w.mem → ∃ tr,
      put v w1 = .ok () { w1 with mem := upd w1.mem blk ((w1.mem blk).set idx (.obj v)), trace := tr })
    (hlt : idx < (w.mem blk).length) (hsrc : SrcLive w s) (hne : s.loc ≠ some (blk, idx)) :
    (writeSrc c put on s w).sat (fun _ w' => WroteFrom c w w' blk idx s) (fun e w' => (e = .elem ∧ on = true) ∧ Quiet w w') := by
  have wrote : ∀ v (w1 : World α), Quiet w w1 → ∃ w2, put v w1 = .ok () w2 ∧ Ctl w w2 ∧ (w2.mem blk)[idx]? = some (.obj v) ∧
      ∀ b i, (b, i) ≠ (blk, idx) → (w2.mem b)[i]? = (w.mem b)[i]? := by
    intro v w1 hq
    obtain ⟨tr, h⟩ := hput v w1 hq.1
    obtain ⟨hc, hat, hrest⟩ := set_slot w1 blk idx (.obj v) tr (hq.1 ▸ hlt)
    exact ⟨_, h, hq.2.trans hc, hat, fun b i hn => (hrest b i hn).trans (by rw [hq.1])⟩
  have plain : ∀ a, s.loc = none → srcVal w s = .val a →
      ((tick on .elem >>= fun _ => put (.val a)) w).sat (fun _ w' => WroteFrom c w w' blk idx s) (fun e w' => (e = .elem ∧ on = true) ∧ Quiet w w') := by
    intro a hl hv
    refine sat_bind (tick_sat on .elem w) (fun _ w1 hq => ?_) (fun _ _ h => h)
    obtain ⟨w2, h, hc, hat, hrest⟩ := wrote (.val a) w1 hq
    rw [h]
    exact ⟨hc, hv ▸ hat, fun b i h => (by rw [hl] at h; cases h), fun b i hn _ => hrest b i hn⟩
  cases s with
  | ext a => exact plain a rfl rfl
  | extMove a => exact plain a rfl rfl
  | value a => exact plain a rfl rfl
  | copyOf b i =>
    obtain ⟨v, hv⟩ := hsrc b i rfl
    have hsv : srcVal w (.copyOf b i) = v := srcVal_of_loc rfl hv
    refine sat_bind (m := tick on .elem) (tick_sat on .elem w) (fun _ w1 hq => ?_) (fun _ _ h => h)
    obtain ⟨w2, h, hc, hat, hrest⟩ := wrote v w1 hq
    rw [bind_run, readSlot_run b i w1 v (hq.1 ▸ hv)]
    show (put v w1).sat _ _
    rw [h]
    refine ⟨hc, hsv ▸ hat, fun b' i' hl hn => ?_, fun b' i' hn _ => hrest b' i' hn⟩
    cases hl
    rw [hrest b i hn, hv, hsv]; rfl
  | moveOf b i =>
    obtain ⟨v, hv⟩ := hsrc b i rfl
    have hsv : srcVal w (.moveOf b i) = v := srcVal_of_loc rfl hv
    have hbi : (b, i) ≠ (blk, idx) := fun e => hne (congrArg some e)
    refine sat_bind (m := tick on .elem) (tick_sat on .elem w) (fun _ w1 hq => ?_) (fun _ _ h => h)
    obtain ⟨w2, h, hc, hat, hrest⟩ := wrote v w1 hq
    have hv2 : (w2.mem b)[i]? = some (.obj v) := (hrest b i hbi).trans hv
    rw [bind_run, readSlot_run b i w1 v (hq.1 ▸ hv)]
    show ((put v >>= fun _ => huskSlot c b i) w1).sat _ _
    rw [bind_run, h]
    show (huskSlot c b i w2).sat _ _
    rw [huskSlot_run c b i w2 v hv2]
    cases hrm : c.realMove
    · rw [if_neg Bool.false_ne_true]
      refine ⟨hc, hsv ▸ hat, fun b' i' hl hn => ?_, fun b' i' hn _ => hrest b' i' hn⟩
      cases hl
      rw [hv2, hsv]
      show _ = some (Slot.obj (if c.realMove = true then Val.husk else v))
      rw [hrm]; rfl
    · rw [if_pos rfl]
      obtain ⟨hc3, hat3, hrest3⟩ := set_slot w2 b i (.obj .husk) w2.trace (lt_of_get hv2)
      refine ⟨hc.trans hc3, (hrest3 blk idx (Ne.symm hbi)).trans (hsv ▸ hat), fun b' i' hl hn => ?_, fun b' i' hn hl => ?_⟩
      · cases hl
        show _ = some (Slot.obj (if c.realMove = true then Val.husk else _))
        rw [hrm]; exact hat3
      · exact (hrest3 b' i' (fun e => hl (congrArg some e.symm))).trans (hrest b' i' hn)

theorem constructSrc_sat (c : Cfg) (blk idx : Nat) (s : Src α) (w : World α)
    (hraw : (w.mem blk)[idx]? = some .raw) (hsrc : SrcLive w s) :
    (constructSrc c blk idx s w).sat (fun _ w' => WroteFrom c w w' blk idx s) (fun e w' => (e = .elem ∧ s.ticks c = true) ∧ Quiet w w') := by
  obtain ⟨ev, _, h⟩ := constructSrc_eq c blk idx s
  rw [h]
  refine writeSrc_sat c blk idx _ _ s w (fun v w1 hm => ⟨_, putObj_run c blk idx v ev w1 (hm ▸ hraw)⟩) (lt_of_get hraw) hsrc (fun hl => ?_)
  -- a live source is not the raw target
  obtain ⟨v, hv⟩ := hsrc blk idx hl
  rw [hraw] at hv; cases hv

theorem assignSrc_sat (c : Cfg) (blk idx : Nat) (s : Src α) (w : World α) (u : Val α)
    (hobj : (w.mem blk)[idx]? = some (.obj u)) (hsrc : SrcLive w s) (hself : s.loc ≠ some (blk, idx)) :
    (assignSrc c blk idx s w).sat (fun _ w' => WroteFrom c w w' blk idx s) (fun e w' => (e = .elem ∧ s.aticks c = true) ∧ Quiet w w') := by
  obtain ⟨ev, _, h⟩ := assignSrc_eq c blk idx s
  rw [h]
  exact writeSrc_sat c blk idx _ _ s w (fun v w1 hm => ⟨_, setObj_run c blk idx v u ev w1 (hm ▸ hobj)⟩) (lt_of_get hobj) hsrc hself

end SvModel
