/-
The system-level invariant: several containers sharing one world (one heap, one allocator ledger).

`SysOK cfg w A` — the containers listed in `A` are constructed:
  * each satisfies the storage invariants `VecOK` (C02) and hence holds exactly `size` live objects in `[0, size)`
    of its buffer and none elsewhere in its buffers (C03);
  * their buffers are pairwise apart (`Sep`);
  * the allocator ledger is consistent and — the quiescent-point clause of C04 — EVERY live heap block is the buffer of
    one of them (`noleak`): nothing is leaked, nothing is owned twice;
  * the undefined-behaviour log is empty (no lifetime violation so far, C03).

`SysOK.step` — any operation on one container `c ∈ A` whose outcome satisfies `Basic cfg w w' c` (what every
operation theorem of Proofs/*.lean establishes for normal return AND for a throw) preserves `SysOK`: the other
containers are untouched, still valid, still own their blocks, and the live set is still exactly the set of buffers.
This lifts the single-container theorems to worlds with any number of interacting containers.

`SysAll cfg w U A` — the same for the constructed containers `A` among the container ids `U`; the others are unborn
storage (`Unborn`), and the in-object buffers of all of them are pairwise apart (`InlSep`).
-/
import SvModel.Proofs.Ctor

namespace SvModel
open Gen
variable {α : Type}

/-- containers of inline capacity 0 share the null block, which has no slots -/
structure Sep (w : World α) (c d : Nat) : Prop where
  inl  : (w.hdr c).inl ≠ (w.hdr d).inl ∨ ((w.hdr c).N = 0 ∧ (w.hdr d).N = 0)
  data : (w.hdr c).data ≠ (w.hdr c).inl → (w.hdr c).data ≠ (w.hdr d).data

structure SysOK (cfg : Cfg) (w : World α) (A : List Nat) : Prop where
  vec    : ∀ c ∈ A, VecOK cfg w c
  nmax   : ∀ c ∈ A, (w.hdr c).N ≤ cfg.maxSize
  led    : Ledger w
  ub     : w.ub = []
  sep    : ∀ c ∈ A, ∀ d ∈ A, c ≠ d → Sep w c d
  noleak : ∀ b ∈ w.live, ∃ c ∈ A, (w.hdr c).data = b

def InlSep (w : World α) (c d : Nat) : Prop :=
  (w.hdr c).inl ≠ (w.hdr d).inl ∨ ((w.hdr c).N = 0 ∧ (w.hdr d).N = 0)

structure SysAll (cfg : Cfg) (w : World α) (U A : List Nat) : Prop where
  sub    : ∀ c ∈ A, c ∈ U
  ok     : SysOK cfg w A
  unborn : ∀ c ∈ U, c ∉ A → Unborn w c
  nmaxU  : ∀ c ∈ U, (w.hdr c).N ≤ cfg.maxSize
  inlsep : ∀ c ∈ U, ∀ d ∈ U, c ≠ d → InlSep w c d

theorem VecOK.inl_nil {cfg : Cfg} {w : World α} {c : Nat} (hv : VecOK cfg w c) (hN : (w.hdr c).N = 0) :
    w.mem (w.hdr c).inl = [] := by
  by_cases hne : (w.hdr c).data = (w.hdr c).inl
  · have hcap : (w.hdr c).cap = (w.hdr c).N := (hv.inl_iff).mpr hne
    have := hv.len
    rw [hne, hcap, hN] at this
    exact List.eq_nil_of_length_eq_zero this
  · have := (hv.idle hne).1
    rw [hN] at this
    exact List.eq_nil_of_length_eq_zero this

theorem Unborn.inl_nil {w : World α} {c : Nat} (hu : Unborn w c) (hN : (w.hdr c).N = 0) : w.mem (w.hdr c).inl = [] := by
  have := hu.len
  rw [hN] at this
  exact List.eq_nil_of_length_eq_zero this

theorem inl_nil_of {w w' : World α} {c : Nat} (h : (w'.hdr c).N = 0 → w'.mem (w'.hdr c).inl = [])
    (hN : (w'.hdr c).N = (w.hdr c).N) (hi : (w'.hdr c).inl = (w.hdr c).inl) : (w.hdr c).N = 0 → w'.mem (w.hdr c).inl = [] :=
  fun h0 => by rw [← hi]; exact h (by rw [hN]; exact h0)

theorem Holds.nil {w : World α} {c : Nat} (hz : (w.hdr c).size = 0) : Holds w c [] :=
  ⟨by rw [hz]; rfl, fun i hi => by simp at hi⟩

theorem Holds.eq_nil {w : World α} {c : Nat} {xs : List (Val α)} (hx : Holds w c xs) (hz : (w.hdr c).size = 0) : xs = [] :=
  List.eq_nil_of_length_eq_zero (by rw [hx.1, hz])

theorem VecOK.data_cases {cfg : Cfg} {w : World α} {c : Nat} (hv : VecOK cfg w c) (hl : Ledger w) :
    (w.hdr c).data = (w.hdr c).inl ∨ (5 ≤ (w.hdr c).data ∧ (w.hdr c).data % 2 = 1 ∧ (w.hdr c).data < w.next) := by
  by_cases h : (w.hdr c).data = (w.hdr c).inl
  · exact Or.inl h
  · exact Or.inr (hv.data_odd hl h)

theorem VecOK.ne_data {cfg : Cfg} {w : World α} {c i : Nat} (hv : VecOK cfg w c) (hl : Ledger w) (hi : i < 5)
    (hne : i ≠ (w.hdr c).inl) : i ≠ (w.hdr c).data := by
  intro h
  rcases hv.data_cases hl with e | e
  · exact hne (h.trans e)
  · omega

/-- the buffer of `o` is not the in-object buffer of `d`, unless `o` has no room for an element and both inline
    capacities are 0 (then both may be the null block) -/
theorem VecOK.data_ne_inl {cfg : Cfg} {w : World α} {o d : Nat} (hvo : VecOK cfg w o) (hl : Ledger w) (hd5 : (w.hdr d).inl < 5)
    (hsep : InlSep w o d) (hcap : (w.hdr o).cap ≠ 0 ∨ ¬ ((w.hdr d).N = 0 ∧ (w.hdr o).N = 0)) :
    (w.hdr o).data ≠ (w.hdr d).inl := by
  rcases hvo.data_cases hl with e | e
  · rw [e]
    rcases hsep with h | ⟨h1, h2⟩
    · exact h
    · have hc : (w.hdr o).cap = (w.hdr o).N := (hvo.inl_iff).mpr e
      rcases hcap with h | h
      · omega
      · exact absurd ⟨h2, h1⟩ h
  · omega

theorem VecOK.of_mem_eq {cfg : Cfg} {w w' : World α} {d : Nat} (hvd : VecOK cfg w d) (hh : w'.hdr d = w.hdr d)
    (hinl : w'.mem (w.hdr d).inl = w.mem (w.hdr d).inl)
    (hheap : (w.hdr d).data ≠ (w.hdr d).inl → w'.mem (w.hdr d).data = w.mem (w.hdr d).data ∧
       (w.hdr d).data ∈ w'.live ∧ w'.owner (w.hdr d).data = w.owner (w.hdr d).data) :
    VecOK cfg w' d ∧ w'.mem (w.hdr d).data = w.mem (w.hdr d).data := by
  have hdata : w'.mem (w.hdr d).data = w.mem (w.hdr d).data := by
    by_cases hdh : (w.hdr d).data = (w.hdr d).inl
    · rw [hdh]; exact hinl
    · exact (hheap hdh).1
  refine ⟨hvd.transfer hh (by rw [hdata]) (fun i hi => by unfold IsObj; rw [hdata]; exact hvd.objs i hi)
    (fun i h1 h2 => by unfold IsRaw; rw [hdata]; exact hvd.raws i h1 h2) ?_ ?_, hdata⟩
  · intro hne
    exact ⟨(hheap hne).2.1, by rw [(hheap hne).2.2]; exact (hvd.heap hne).2⟩
  · intro hne
    obtain ⟨h1, h2⟩ := hvd.idle hne
    exact ⟨by rw [hinl]; exact h1, fun i hi => by unfold IsRaw; rw [hinl]; exact h2 i hi⟩

theorem Unborn.of_mem_eq {w w' : World α} {d : Nat} (hu : Unborn w d) (hh : w'.hdr d = w.hdr d)
    (hm : w'.mem (w.hdr d).inl = w.mem (w.hdr d).inl) : Unborn w' d :=
  ⟨by rw [hh]; exact hu.inl_lt, by rw [hh, hm]; exact hu.len, fun i hi => by rw [hh] at hi ⊢; unfold IsRaw; rw [hm]; exact hu.raws i hi⟩

theorem Holds.of_mem_eq {w w' : World α} {d : Nat} {xs : List (Val α)} (hx : Holds w d xs) (hh : w'.hdr d = w.hdr d)
    (hm : w'.mem (w.hdr d).data = w.mem (w.hdr d).data) : Holds w' d xs :=
  ⟨by rw [hh]; exact hx.1, fun i hi => by rw [hh, hm]; exact hx.2 i hi⟩

theorem VecOK.setAlloc {cfg : Cfg} {w : World α} {c : Nat} (hv : VecOK cfg w c) (a' : Nat)
    (hok : (w.hdr c).data = (w.hdr c).inl ∨ a' = (w.hdr c).alloc) :
    VecOK cfg ({ w with hdr := upd w.hdr c { w.hdr c with alloc := a' } } : World α) c := by
  have hhc : ({ w with hdr := upd w.hdr c { w.hdr c with alloc := a' } } : World α).hdr c = { w.hdr c with alloc := a' } :=
    upd_same _ _ _
  refine ⟨?_, ?_, ?_, ?_, ?_, ?_, ?_, ?_, ?_, ?_⟩ <;> rw [hhc]
  · exact hv.size_le
  · exact hv.cap_ge
  · exact hv.cap_max
  · exact hv.inl_iff
  · exact hv.inl_lt
  · exact hv.len
  · exact hv.objs
  · exact hv.raws
  · intro hne
    rcases hok with h | h
    · exact absurd h hne
    · exact ⟨(hv.heap hne).1, by rw [h]; exact (hv.heap hne).2⟩
  · exact hv.idle

theorem Holds.setAlloc {w : World α} {d : Nat} {xs : List (Val α)} (hx : Holds w d xs) (c a' : Nat) :
    Holds ({ w with hdr := upd w.hdr c { w.hdr c with alloc := a' } } : World α) d xs := by
  have h : (upd w.hdr c { w.hdr c with alloc := a' } d).size = (w.hdr d).size ∧
      (upd w.hdr c { w.hdr c with alloc := a' } d).data = (w.hdr d).data := by
    by_cases hdc : d = c
    · rw [hdc, upd_same]; exact ⟨rfl, rfl⟩
    · rw [upd_other _ _ _ _ hdc]; exact ⟨rfl, rfl⟩
  exact ⟨hx.1.trans h.1.symm, fun i hi => by show (w.mem (upd w.hdr c _ d).data)[i]? = _; rw [h.2]; exact hx.2 i hi⟩

theorem InlSep.block {w : World α} {d c : Nat} (hs : InlSep w d c) (hnil : (w.hdr d).N = 0 → w.mem (w.hdr d).inl = []) :
    (w.hdr d).inl ≠ (w.hdr c).inl ∨ ((w.hdr c).N = 0 ∧ w.mem (w.hdr d).inl = []) := by
  rcases hs with h | ⟨h1, h2⟩
  · exact Or.inl h
  · exact Or.inr ⟨h2, hnil h1⟩

/-- the in-object buffer `i` of a third party across a change of `c`: either it is not `c`'s in-object buffer and the
    change leaves it alone, or it is the null block shared with `c`, empty before and after -/
theorem inl_block_eq {w w' : World α} {c i : Nat} (hci : i ≠ (w.hdr c).inl ∨ ((w.hdr c).N = 0 ∧ w.mem i = []))
    (hnil : (w.hdr c).N = 0 → w'.mem (w.hdr c).inl = [])
    (hfr : i ≠ (w.hdr c).inl → w'.mem i = w.mem i) : w'.mem i = w.mem i := by
  by_cases h : i = (w.hdr c).inl
  · rcases hci with hne | ⟨hN, hm⟩
    · exact absurd h hne
    · rw [hm, h]; exact hnil hN
  · exact hfr h

theorem Basic.inl_nil {cfg : Cfg} {w w' : World α} {c : Nat} (hb : Basic cfg w w' c) (hN : (w.hdr c).N = 0) :
    w'.mem (w.hdr c).inl = [] :=
  inl_nil_of hb.vec.inl_nil hb.frame.hdr_N hb.frame.hdr_inl hN

theorem Basic.inl_other {cfg : Cfg} {w w' : World α} {c i : Nat} (hb : Basic cfg w w' c) (hvc : VecOK cfg w c) (hl : Ledger w)
    (hi5 : i < 5) (hci : i ≠ (w.hdr c).inl ∨ ((w.hdr c).N = 0 ∧ w.mem i = [])) : w'.mem i = w.mem i :=
  inl_block_eq hci hb.inl_nil
    (fun hne => hb.frame.mem_other i (hvc.ne_data hl hi5 hne) hne (by have := hl.next_ok.2; omega) (Or.inr hi5))

theorem VecOK.of_ctor {cfg : Cfg} {w w' : World α} {c d x : Nat} (hvd : VecOK cfg w d) (hl : Ledger w)
    (hh : w'.hdr d = w.hdr d)
    (hmem : ∀ b, b ≠ (w.hdr c).inl → b ≠ x → b < w.next → w'.mem b = w.mem b)
    (hown : ∀ b, b < w.next → w'.owner b = w.owner b)
    (hsep : InlSep w d c) (hci5 : (w.hdr c).inl < 5) (hnil : (w.hdr c).N = 0 → w'.mem (w.hdr c).inl = [])
    (hxi : (w.hdr d).inl ≠ x) (hxd : (w.hdr d).data ≠ x) (hlive : ∀ b, b ∈ w.live → b ∈ w'.live) :
    VecOK cfg w' d ∧ w'.mem (w.hdr d).data = w.mem (w.hdr d).data := by
  have hn5 := hl.next_ok.2
  have hdi5 := hvd.inl_lt
  refine hvd.of_mem_eq hh (inl_block_eq (hsep.block hvd.inl_nil) hnil (fun hne => hmem _ hne hxi (by omega))) (fun hne => ?_)
  have hodd := hvd.data_odd hl hne
  exact ⟨hmem _ (by omega) hxd hodd.2.2, hlive _ (hvd.heap hne).1, hown _ hodd.2.2⟩

theorem Unborn.of_ctor {w w' : World α} {c d x : Nat} (hud : Unborn w d) (hl : Ledger w) (hh : w'.hdr d = w.hdr d)
    (hmem : ∀ b, b ≠ (w.hdr c).inl → b ≠ x → b < w.next → w'.mem b = w.mem b)
    (hsep : InlSep w d c) (hnil : (w.hdr c).N = 0 → w'.mem (w.hdr c).inl = []) (hxi : (w.hdr d).inl ≠ x) : Unborn w' d :=
  hud.of_mem_eq hh (inl_block_eq (hsep.block hud.inl_nil) hnil
    (fun hne => hmem _ hne hxi (by have := hl.next_ok.2; have := hud.inl_lt; omega)))

def SameShape (w w' : World α) : Prop := ∀ d, (w'.hdr d).N = (w.hdr d).N ∧ (w'.hdr d).inl = (w.hdr d).inl

theorem SameShape.of_other2 {w w' : World α} {c o : Nat} (hd : ∀ d, d ≠ c → d ≠ o → w'.hdr d = w.hdr d)
    (hc : (w'.hdr c).N = (w.hdr c).N ∧ (w'.hdr c).inl = (w.hdr c).inl)
    (ho : (w'.hdr o).N = (w.hdr o).N ∧ (w'.hdr o).inl = (w.hdr o).inl) : SameShape w w' := by
  intro d
  by_cases h1 : d = c
  · rw [h1]; exact hc
  · by_cases h2 : d = o
    · rw [h2]; exact ho
    · rw [hd d h1 h2]; exact ⟨rfl, rfl⟩

theorem SameShape.of_other {w w' : World α} {c : Nat} (hd : ∀ d, d ≠ c → w'.hdr d = w.hdr d)
    (hN : (w'.hdr c).N = (w.hdr c).N) (hi : (w'.hdr c).inl = (w.hdr c).inl) : SameShape w w' :=
  SameShape.of_other2 (fun d h _ => hd d h) ⟨hN, hi⟩ ⟨hN, hi⟩

theorem SameShape.inlsep {w w' : World α} {x y : Nat} (h : SameShape w w') (hs : InlSep w x y) : InlSep w' x y := by
  unfold InlSep
  rw [(h x).1, (h x).2, (h y).1, (h y).2]
  exact hs

theorem Basic.shape {cfg : Cfg} {w w' : World α} {c : Nat} (hb : Basic cfg w w' c) : SameShape w w' :=
  SameShape.of_other hb.frame.hdr_other hb.frame.hdr_N hb.frame.hdr_inl

/-- `Sep.data` only matters between two containers on the heap: a heap buffer is never an in-object buffer -/
theorem SysOK.of_dist {cfg : Cfg} {w : World α} {A : List Nat} (vec : ∀ c ∈ A, VecOK cfg w c)
    (nmax : ∀ c ∈ A, (w.hdr c).N ≤ cfg.maxSize) (led : Ledger w) (ub : w.ub = [])
    (inl : ∀ c ∈ A, ∀ d ∈ A, c ≠ d → InlSep w c d)
    (dist : ∀ c ∈ A, ∀ d ∈ A, c ≠ d → (w.hdr c).data ≠ (w.hdr c).inl → (w.hdr d).data ≠ (w.hdr d).inl →
      (w.hdr c).data ≠ (w.hdr d).data)
    (noleak : ∀ b ∈ w.live, ∃ c ∈ A, (w.hdr c).data = b) : SysOK cfg w A := by
  refine ⟨vec, nmax, led, ub, fun c hc d hd hcd => ⟨inl c hc d hd hcd, fun hne => ?_⟩, noleak⟩
  by_cases hdi : (w.hdr d).data = (w.hdr d).inl
  · have := ((vec c hc).data_odd led hne).1
    have := (vec d hd).inl_lt
    omega
  · exact dist c hc d hd hcd hne hdi

theorem SysAll.remake {cfg : Cfg} {w w' : World α} {U A A' : List Nat} (hs : SysAll cfg w U A) (hsh : SameShape w w')
    (hsub : ∀ c ∈ A', c ∈ U) (hvec : ∀ c ∈ A', VecOK cfg w' c) (hl' : Ledger w') (hub : w'.ub = w.ub)
    (hdist : ∀ c ∈ A', ∀ d ∈ A', c ≠ d → (w'.hdr c).data ≠ (w'.hdr c).inl → (w'.hdr d).data ≠ (w'.hdr d).inl →
      (w'.hdr c).data ≠ (w'.hdr d).data)
    (hnoleak : ∀ b ∈ w'.live, ∃ c ∈ A', (w'.hdr c).data = b)
    (hun : ∀ c ∈ U, c ∉ A' → Unborn w' c) : SysAll cfg w' U A' :=
  ⟨hsub,
   SysOK.of_dist hvec (fun c hc => by rw [(hsh c).1]; exact hs.nmaxU c (hsub c hc)) hl' (by rw [hub]; exact hs.ok.ub)
     (fun c hc d hd hcd => hsh.inlsep (hs.inlsep c (hsub c hc) d (hsub d hd) hcd)) hdist hnoleak,
   hun, fun c hc => by rw [(hsh c).1]; exact hs.nmaxU c hc, fun c hc d hd hcd => hsh.inlsep (hs.inlsep c hc d hd hcd)⟩

theorem SysAll.of_same_data {cfg : Cfg} {w w' : World α} {U A A' : List Nat} (hs : SysAll cfg w U A) (hsh : SameShape w w')
    (hA : ∀ d ∈ A', d ∈ A) (hvec : ∀ d ∈ A', VecOK cfg w' d) (hdata : ∀ d ∈ A', (w'.hdr d).data = (w.hdr d).data)
    (hl' : Ledger w') (hub : w'.ub = w.ub) (hnoleak : ∀ b ∈ w'.live, ∃ d ∈ A', (w.hdr d).data = b)
    (hun : ∀ d ∈ U, d ∉ A' → Unborn w' d) : SysAll cfg w' U A' := by
  refine hs.remake hsh (fun d hd => hs.sub d (hA d hd)) hvec hl' hub ?_ ?_ hun
  · intro x hx y hy hxy hne _
    rw [hdata x hx, hdata y hy]
    rw [hdata x hx, (hsh x).2] at hne
    exact (hs.ok.sep x (hA x hx) y (hA y hy) hxy).data hne
  · intro b hb
    obtain ⟨d, hd, hdd⟩ := hnoleak b hb
    exact ⟨d, hd, (hdata d hd).trans hdd⟩

theorem SysAll.setAlloc {cfg : Cfg} {w : World α} {U A : List Nat} {c : Nat} (hs : SysAll cfg w U A) (hc : c ∈ A) (a' : Nat)
    (hok : (w.hdr c).data = (w.hdr c).inl ∨ a' = (w.hdr c).alloc) :
    SysAll cfg ({ w with hdr := upd w.hdr c { w.hdr c with alloc := a' } } : World α) U A := by
  have hhd : ∀ d, d ≠ c → upd w.hdr c { w.hdr c with alloc := a' } d = w.hdr d := fun d hd => upd_other _ _ _ _ hd
  refine hs.of_same_data (w' := { w with hdr := upd w.hdr c { w.hdr c with alloc := a' } })
    (SameShape.of_other hhd (by show (upd w.hdr c _ c).N = _; rw [upd_same]) (by show (upd w.hdr c _ c).inl = _; rw [upd_same])) (fun _ h => h) ?_ ?_
    (hs.ok.led.with_hdr _) rfl hs.ok.noleak ?_
  · intro d hd
    by_cases hdc : d = c
    · rw [hdc]; exact (hs.ok.vec c hc).setAlloc a' hok
    · exact ((hs.ok.vec d hd).of_mem_eq (w' := { w with hdr := upd w.hdr c { w.hdr c with alloc := a' } }) (hhd d hdc) rfl
        (fun hne => ⟨rfl, ((hs.ok.vec d hd).heap hne).1, rfl⟩)).1
  · intro d _
    by_cases hdc : d = c
    · rw [hdc]; show (upd w.hdr c _ c).data = _; rw [upd_same]
    · show (upd w.hdr c _ d).data = _; rw [hhd d hdc]
  · intro d hdU hdA
    exact (hs.unborn d hdU hdA).of_mem_eq (w' := { w with hdr := upd w.hdr c { w.hdr c with alloc := a' } })
      (hhd d (fun e => hdA (e ▸ hc))) rfl

theorem SysAll.join {cfg : Cfg} {w w' : World α} {U A : List Nat} {c : Nat} (hs : SysAll cfg w U A) (hsh : SameShape w w')
    (hcU : c ∈ U) (hvc : VecOK cfg w' c) (hvec : ∀ d ∈ A, VecOK cfg w' d)
    (hdata : ∀ d ∈ A, (w'.hdr d).data = (w.hdr d).data ∨ (w'.hdr d).data = (w'.hdr d).inl)
    (hl' : Ledger w') (hub : w'.ub = w.ub)
    (hnew : ∀ d ∈ A, (w'.hdr c).data ≠ (w'.hdr c).inl → (w'.hdr d).data ≠ (w'.hdr d).inl → (w'.hdr c).data ≠ (w'.hdr d).data)
    (hnoleak : ∀ b ∈ w'.live, ∃ d ∈ c :: A, (w'.hdr d).data = b)
    (hun : ∀ d ∈ U, d ∉ A → d ≠ c → Unborn w' d) : SysAll cfg w' U (c :: A) := by
  refine hs.remake hsh ?_ ?_ hl' hub ?_ hnoleak ?_
  · intro d hd
    rcases List.mem_cons.mp hd with e | hd'
    · rw [e]; exact hcU
    · exact hs.sub d hd'
  · intro d hd
    rcases List.mem_cons.mp hd with e | hd'
    · rw [e]; exact hvc
    · exact hvec d hd'
  · intro x hx y hy hxy hnx hny
    rcases List.mem_cons.mp hx with ex | hx'
    · rcases List.mem_cons.mp hy with ey | hy'
      · exact absurd (ex.trans ey.symm) hxy
      · rw [ex] at hnx ⊢; exact hnew y hy' hnx hny
    · rcases List.mem_cons.mp hy with ey | hy'
      · rw [ey] at hny ⊢; exact fun h => hnew x hx' hny hnx h.symm
      · rcases hdata x hx' with e1 | e1
        · rcases hdata y hy' with e2 | e2
          · rw [e1, e2]
            rw [e1, (hsh x).2] at hnx
            exact (hs.ok.sep x hx' y hy' hxy).data hnx
          · exact absurd e2 hny
        · exact absurd e1 hnx
  · intro d hdU hdA
    exact hun d hdU (fun h => hdA (List.mem_cons_of_mem _ h)) (fun h => hdA (by rw [h]; exact List.mem_cons_self))

/-- what a constructor of `c` leaves on return: only `c`'s header changed (keeping `N` and `inl`), and `c`'s buffer is its
    in-object buffer or the one new block -/
theorem SysAll.join_fresh {cfg : Cfg} {w w' : World α} {U A : List Nat} {c n : Nat} (hs : SysAll cfg w U A)
    (hcU : c ∈ U) (hcA : c ∉ A) (hother : ∀ d, d ≠ c → w'.hdr d = w.hdr d) (hN : (w'.hdr c).N = (w.hdr c).N)
    (hinl : (w'.hdr c).inl = (w.hdr c).inl) (hvc : VecOK cfg w' c) (hvec : ∀ d ∈ A, VecOK cfg w' d)
    (hl' : Ledger w') (hub : w'.ub = w.ub)
    (hlive : w'.live = if (w.hdr c).N < n then w.next :: w.live else w.live)
    (hdata : (w'.hdr c).data = if (w.hdr c).N < n then w.next else (w.hdr c).inl)
    (hun : ∀ d ∈ U, d ∉ A → d ≠ c → Unborn w' d) : SysAll cfg w' U (c :: A) := by
  have hsh := SameShape.of_other hother hN hinl
  have hhdr : ∀ d ∈ A, w'.hdr d = w.hdr d := fun d hd => hother d (fun e => hcA (e ▸ hd))
  refine hs.join hsh hcU hvc hvec (fun d hd => Or.inl (by rw [hhdr d hd])) hl' hub ?_ ?_ hun
  · intro d hd hnc _
    have hdlt := (hs.ok.vec d hd).data_lt_next hs.ok.led
    rw [hhdr d hd]
    by_cases hbig : (w.hdr c).N < n
    · rw [hdata, if_pos hbig]; omega
    · rw [hdata, if_neg hbig, (hsh c).2] at hnc; exact absurd rfl hnc
  · intro b hb
    rw [hlive] at hb
    by_cases hbig : (w.hdr c).N < n
    · rw [if_pos hbig] at hb
      rcases List.mem_cons.mp hb with h | h
      · exact ⟨c, List.mem_cons_self, by rw [hdata, if_pos hbig, h]⟩
      · obtain ⟨d, hd, hdd⟩ := hs.ok.noleak b h
        exact ⟨d, List.mem_cons_of_mem _ hd, by rw [hhdr d hd]; exact hdd⟩
    · rw [if_neg hbig] at hb
      obtain ⟨d, hd, hdd⟩ := hs.ok.noleak b hb
      exact ⟨d, List.mem_cons_of_mem _ hd, by rw [hhdr d hd]; exact hdd⟩

/-- what a constructor of `c` leaves after a throw: `c` is unborn again, no header of a constructed container changed
    and the live blocks are those of before -/
theorem SysAll.ctor_thrown {cfg : Cfg} {w w' : World α} {U A : List Nat} {c : Nat} (hs : SysAll cfg w U A)
    (hcA : c ∉ A) (hother : ∀ d, d ≠ c → w'.hdr d = w.hdr d) (hN : (w'.hdr c).N = (w.hdr c).N)
    (hinl : (w'.hdr c).inl = (w.hdr c).inl) (hu' : Unborn w' c) (hvec : ∀ d ∈ A, VecOK cfg w' d)
    (hl' : Ledger w') (hub : w'.ub = w.ub) (hlive : w'.live = w.live)
    (hun : ∀ d ∈ U, d ∉ A → d ≠ c → Unborn w' d) : SysAll cfg w' U A := by
  refine hs.of_same_data (SameShape.of_other hother hN hinl) (fun _ h => h) hvec
    (fun d hd => by rw [hother d (fun e => hcA (e ▸ hd))]) hl' hub (by rw [hlive]; exact hs.ok.noleak) ?_
  intro d hdU hdA
  by_cases hdc : d = c
  · rw [hdc]; exact hu'
  · exact hun d hdU hdA hdc

theorem SysOK.other {cfg : Cfg} {w w' : World α} {A : List Nat} {c : Nat} (hs : SysOK cfg w A) (hc : c ∈ A)
    (hb : Basic cfg w w' c) : ∀ d ∈ A, d ≠ c →
      w'.hdr d = w.hdr d ∧ w'.mem (w.hdr d).data = w.mem (w.hdr d).data ∧ w'.mem (w.hdr d).inl = w.mem (w.hdr d).inl := by
  intro d hd hdc
  have hvc := hs.vec c hc
  have hvd := hs.vec d hd
  have hl := hs.led
  have hsep := hs.sep d hd c hc hdc
  have hinl := hb.inl_other hvc hl hvd.inl_lt (InlSep.block hsep.inl hvd.inl_nil)
  refine ⟨hb.frame.hdr_other d hdc, ?_, hinl⟩
  by_cases hdh : (w.hdr d).data = (w.hdr d).inl
  · rw [hdh]; exact hinl
  · have hodd := hvd.data_odd hl hdh
    have hci5 := hvc.inl_lt
    exact hb.frame.mem_other _ (hsep.data hdh) (by omega) hodd.2.2 (Or.inl hodd.2.1)

theorem SysOK.holds_other {cfg : Cfg} {w w' : World α} {A : List Nat} {c d : Nat} {xs : List (Val α)} (hs : SysOK cfg w A)
    (hc : c ∈ A) (hb : Basic cfg w w' c) (hd : d ∈ A) (hdc : d ≠ c) (hx : Holds w d xs) : Holds w' d xs := by
  obtain ⟨hh, hm, _⟩ := hs.other hc hb d hd hdc
  exact hx.of_mem_eq hh hm

theorem SysOK.step {cfg : Cfg} {w w' : World α} {A : List Nat} {c : Nat} (hs : SysOK cfg w A) (hc : c ∈ A)
    (hb : Basic cfg w w' c) : SysOK cfg w' A := by
  have hl := hs.led
  have hfr := hb.frame
  have hsh := hb.shape
  have other := hs.other hc hb
  -- a heap buffer of `c` afterwards is none of the others' buffers: it is the old one or a new block
  have hcd : ∀ d ∈ A, d ≠ c → (w'.hdr c).data ≠ (w'.hdr c).inl → (w'.hdr c).data ≠ (w.hdr d).data := by
    intro d hd hdc hne
    have hdlt := (hs.vec d hd).data_lt_next hl
    rcases hfr.data_new with h | h | h
    · rw [h]; rw [h, hfr.hdr_inl] at hne; exact (hs.sep c hc d hd (Ne.symm hdc)).data hne
    · rw [hfr.hdr_inl] at hne; exact absurd h hne
    · omega
  refine SysOK.of_dist ?_ (fun d hd => by rw [(hsh d).1]; exact hs.nmax d hd) hb.led (by rw [hb.ub]; exact hs.ub)
    (fun x hx y hy hxy => hsh.inlsep (hs.sep x hx y hy hxy).inl) ?_ ?_
  · intro d hd
    by_cases hdc : d = c
    · rw [hdc]; exact hb.vec
    · obtain ⟨hh, hmd, hmi⟩ := other d hd hdc
      have hvd := hs.vec d hd
      refine (hvd.of_mem_eq hh hmi (fun hne => ?_)).1
      have hodd := hvd.data_odd hl hne
      refine ⟨hmd, ?_, hfr.owner_old _ hodd.2.2⟩
      rw [hfr.live.old _ hodd.2.2]
      exact ⟨(hvd.heap hne).1, fun he => absurd he ((hs.sep d hd c hc hdc).data hne)⟩
  · intro x hx y hy hxy hnx hny
    by_cases hxc : x = c
    · rw [hxc] at hnx hxy ⊢
      rw [(other y hy (Ne.symm hxy)).1]
      exact hcd y hy (Ne.symm hxy) hnx
    · by_cases hyc : y = c
      · rw [hyc] at hny ⊢
        rw [(other x hx hxc).1]
        exact fun h => hcd x hx hxc hny h.symm
      · rw [(other x hx hxc).1] at hnx ⊢
        rw [(other y hy hyc).1]
        exact (hs.sep x hx y hy hxy).data hnx
  · intro b hbl
    by_cases hbn : b < w.next
    · obtain ⟨h1, h2⟩ := (hfr.live.old b hbn).mp hbl
      obtain ⟨d, hd, hdd⟩ := hs.noleak b h1
      by_cases hdc : d = c
      · subst hdc; exact ⟨d, hd, h2 hdd.symm⟩
      · exact ⟨d, hd, by rw [(other d hd hdc).1]; exact hdd⟩
    · exact ⟨c, hc, ((hfr.live.fresh b (by omega)).mp hbl).symm⟩

theorem SysOK.empty {cfg : Cfg} {w : World α} (hl : Ledger w) (hub : w.ub = []) (hlive : w.live = []) : SysOK cfg w [] :=
  ⟨fun _ h => by simp at h, fun _ h => by simp at h, hl, hub, fun _ h => by simp at h, fun b h => by rw [hlive] at h; simp at h⟩

/-- C04 at a quiescent point, "nothing is owned twice": a heap buffer belongs to one constructed container only -/
theorem SysOK.owner_unique {cfg : Cfg} {w : World α} {A : List Nat} (hs : SysOK cfg w A) {c d : Nat} (hc : c ∈ A) (hd : d ∈ A)
    (hheap : (w.hdr c).data ≠ (w.hdr c).inl) (he : (w.hdr c).data = (w.hdr d).data) : c = d := by
  by_cases h : c = d
  · exact h
  · exact absurd he ((hs.sep c hc d hd h).data hheap)

/-- the buffer of `o` is none of the blocks of another constructed container `c`, unless `o` has no room for an
    element and both inline capacities are 0 -/
theorem SysOK.buffers_apart {cfg : Cfg} {w : World α} {A : List Nat} {c o : Nat} (hs : SysOK cfg w A) (hc : c ∈ A) (ho : o ∈ A)
    (hoc : o ≠ c) (hcap : (w.hdr o).cap ≠ 0 ∨ ¬ ((w.hdr c).N = 0 ∧ (w.hdr o).N = 0)) :
    (w.hdr o).data ≠ (w.hdr c).data ∧ (w.hdr o).data ≠ (w.hdr c).inl := by
  have hvc := hs.vec c hc
  have hvo := hs.vec o ho
  have hsep := hs.sep o ho c hc hoc
  have hi := hvo.data_ne_inl hs.led hvc.inl_lt hsep.inl hcap
  refine ⟨?_, hi⟩
  rcases hvc.data_cases hs.led with e | e
  · rw [e]; exact hi
  · rcases hvo.data_cases hs.led with f | f
    · have := hvo.inl_lt; omega
    · exact hsep.data (by have := hvo.inl_lt; omega)

theorem SysOK.apart {cfg : Cfg} {w : World α} {A : List Nat} {c o : Nat} (hs : SysOK cfg w A) (hc : c ∈ A) (ho : o ∈ A) (hoc : o ≠ c)
    (hne0 : (w.hdr o).size ≠ 0) : (w.hdr o).data ≠ (w.hdr c).data ∧ (w.hdr o).data ≠ (w.hdr c).inl :=
  hs.buffers_apart hc ho hoc (Or.inl (by have := (hs.vec o ho).size_le; omega))

theorem SysAll.step {cfg : Cfg} {w w' : World α} {U A : List Nat} {c : Nat} (hs : SysAll cfg w U A) (hc : c ∈ A)
    (hb : Basic cfg w w' c) : SysAll cfg w' U A := by
  have hsh := hb.shape
  refine ⟨hs.sub, hs.ok.step hc hb, ?_, fun d hd => by rw [(hsh d).1]; exact hs.nmaxU d hd,
          fun x hx y hy hxy => hsh.inlsep (hs.inlsep x hx y hy hxy)⟩
  intro d hdU hdA
  have hdc : d ≠ c := fun h => hdA (h ▸ hc)
  have hud := hs.unborn d hdU hdA
  exact hud.of_mem_eq (hb.frame.hdr_other d hdc)
    (hb.inl_other (hs.ok.vec c hc) hs.ok.led hud.inl_lt ((hs.inlsep d hdU c (hs.sub c hc) hdc).block hud.inl_nil))

theorem SysAll.two_steps {cfg : Cfg} {w wh w' : World α} {U A : List Nat} {c o : Nat} (hs : SysAll cfg w U A) (hc : c ∈ A) (ho : o ∈ A)
    (hb1 : Basic cfg w wh o) (hb2 : Basic cfg wh w' c) :
    SysAll cfg w' U A ∧ (∃ zs, Holds w' c zs) ∧ (∃ ys, Holds w' o ys) ∧
      (∀ d ∈ A, d ≠ c → d ≠ o → ∀ xs, Holds w d xs → Holds w' d xs) := by
  have hs_h := hs.step ho hb1
  have hs1 := hs_h.step hc hb2
  refine ⟨hs1, (hs1.ok.vec c hc).holds_exists, (hs1.ok.vec o ho).holds_exists, ?_⟩
  intro d hd hdc hdo xs hx
  exact hs_h.ok.holds_other hc hb2 hd hdc (hs.ok.holds_other ho hb1 hd hdo hx)

/-- CONSTRUCTION (count / count+value / range / copy constructors) of an unborn container in a system of live ones:
    on return the new container has joined the system; after a throw the system is as before and the storage is
    unborn again — nothing leaked, nothing else touched -/
theorem SysAll.ctorFill {cfg : Cfg} {w : World α} {U A : List Nat} {c : Nat} (hs : SysAll cfg w U A) (hcU : c ∈ U) (hcA : c ∉ A)
    (a : Nat) (checked : Bool) (srcs : List (Src α))
    (hk : checked = false → srcs.length ≤ cfg.maxSize) (hsrc : CtorSrcs cfg w c srcs) :
    (ctorFill cfg c a checked srcs w).sat
      (fun _ w' => SysAll cfg w' U (c :: A) ∧ Holds w' c (srcs.map (srcVal w)) ∧ (w'.hdr c).alloc = a ∧
                   ∀ d ∈ A, w'.hdr d = w.hdr d ∧ w'.mem (w.hdr d).data = w.mem (w.hdr d).data)
      (fun _ w' => SysAll cfg w' U A ∧ w'.live = w.live ∧
                   ∀ d ∈ A, w'.hdr d = w.hdr d ∧ w'.mem (w.hdr d).data = w.mem (w.hdr d).data) := by
  have hu := hs.unborn c hcU hcA
  have hl := hs.ok.led
  have hn5 := hl.next_ok.2
  have hneA : ∀ d ∈ A, d ≠ c := fun d hd h => hcA (h ▸ hd)
  -- the others across the constructor: no block below `w.next` other than `c`'s in-object buffer is written
  have others : ∀ {w' : World α}, CFrame w w' c → ((w.hdr c).N = 0 → w'.mem (w.hdr c).inl = []) →
      (∀ b, b ∈ w.live → b ∈ w'.live) →
      (∀ d ∈ A, VecOK cfg w' d ∧ w'.mem (w.hdr d).data = w.mem (w.hdr d).data) ∧ (∀ d ∈ U, d ∉ A → d ≠ c → Unborn w' d) := by
    intro w' hf hnil hlsub
    refine ⟨fun d hd => ?_, fun d hdU hdA hdc => ?_⟩
    · have hvd := hs.ok.vec d hd
      exact hvd.of_ctor (x := w.next) hl (hf.hdr_other d (hneA d hd)) (fun b h1 _ h3 => hf.mem_other b h1 h3) hf.owner_old
        (hs.inlsep d (hs.sub d hd) c hcU (hneA d hd)) hu.inl_lt hnil (by have := hvd.inl_lt; omega)
        (Nat.ne_of_lt (hvd.data_lt_next hl)) hlsub
    · have hud := hs.unborn d hdU hdA
      exact hud.of_ctor (x := w.next) hl (hf.hdr_other d hdc) (fun b h1 _ h3 => hf.mem_other b h1 h3)
        (hs.inlsep d hdU c hcU hdc) hnil (by have := hud.inl_lt; omega)
  refine Res.sat_mono (ctorFill_sat cfg c a checked srcs w hu hl hk hsrc) ?_ ?_
  ·
    intro _ w' ⟨hvc, hl', hholds, halloc, hlive, hN, hcap, hdata, hf⟩
    obtain ⟨hall, hunb⟩ := others hf (inl_nil_of hvc.inl_nil hN hf.hdr_inl) (fun b hb => by rw [hlive]; split <;> simp [hb])
    exact ⟨hs.join_fresh hcU hcA hf.hdr_other hf.hdr_N hf.hdr_inl hvc (fun d hd => (hall d hd).1) hl' hf.ub hlive hdata hunb,
             hholds, halloc, fun d hd => ⟨hf.hdr_other d (hneA d hd), (hall d hd).2⟩⟩
  ·
    intro e w' ⟨hu', hl', hlive, _, hf⟩
    obtain ⟨hall, hunb⟩ := others hf (inl_nil_of hu'.inl_nil hf.hdr_N hf.hdr_inl) (fun b hb => by rw [hlive]; exact hb)
    exact ⟨hs.ctor_thrown hcA hf.hdr_other hf.hdr_N hf.hdr_inl hu' (fun d hd => (hall d hd).1) hl' hf.ub hlive hunb,
             hlive, fun d hd => ⟨hf.hdr_other d (hneA d hd), (hall d hd).2⟩⟩

/-- construction from no sources -/
theorem SysAll.ctorEmpty {cfg : Cfg} {w : World α} {U A : List Nat} {c : Nat} (hs : SysAll cfg w U A) (hcU : c ∈ U) (hcA : c ∉ A)
    (a : Nat) (checked : Bool) :
    (SvModel.ctorFill cfg c a checked ([] : List (Src α)) w).sat
      (fun _ w' => SysAll cfg w' U (c :: A) ∧ Holds w' c [] ∧ (w'.hdr c).alloc = a ∧
                   ∀ d ∈ A, w'.hdr d = w.hdr d ∧ w'.mem (w.hdr d).data = w.mem (w.hdr d).data)
      (fun _ w' => SysAll cfg w' U A ∧ w'.live = w.live ∧
                   ∀ d ∈ A, w'.hdr d = w.hdr d ∧ w'.mem (w.hdr d).data = w.mem (w.hdr d).data) :=
  SysAll.ctorFill hs hcU hcA a checked [] (fun _ => Nat.zero_le _)
    ⟨fun _ h => (nomatch h), fun _ h => (nomatch h), fun _ h => (nomatch h)⟩

theorem mem_filter_ne {A : List Nat} {b c : Nat} : b ∈ A.filter (· ≠ c) ↔ b ∈ A ∧ b ≠ c := by
  rw [List.mem_filter]; simp

theorem mem_filter_cons_ne {A : List Nat} {x c : Nat} (hc : c ∉ A) : x ∈ (c :: A).filter (· ≠ c) ↔ x ∈ A :=
  mem_filter_ne.trans ⟨fun h => (List.mem_cons.mp h.1).resolve_left h.2, fun h => ⟨List.mem_cons_of_mem _ h, fun e => hc (e ▸ h)⟩⟩

/-- taking `c ∈ A` out and putting it in front leaves the members as they are -/
theorem mem_cons_filter_ne_of_mem {A : List Nat} {x c : Nat} (hc : c ∈ A) : x ∈ c :: A.filter (· ≠ c) ↔ x ∈ A := by
  rw [List.mem_cons, mem_filter_ne]
  by_cases hxc : x = c
  · exact ⟨fun _ => hxc ▸ hc, fun _ => Or.inl hxc⟩
  · exact ⟨fun h => h.elim (fun e => absurd e hxc) And.left, fun h => Or.inr ⟨h, hxc⟩⟩

/-- DESTRUCTION of a constructed container: it leaves the system, its block (if any) is returned, every other
    container is untouched, and its storage is unborn again -/
theorem SysAll.dtor {cfg : Cfg} {w : World α} {U A : List Nat} {c : Nat} (hs : SysAll cfg w U A) (hc : c ∈ A) :
    (dtor cfg c w).sat
      (fun _ w' => SysAll cfg w' U (A.filter (· ≠ c)) ∧ w'.hdr = w.hdr ∧
                   ∀ d ∈ A, d ≠ c → w'.mem (w.hdr d).data = w.mem (w.hdr d).data)
      (fun _ _ => False) := by
  have hvc := hs.ok.vec c hc
  have hl := hs.ok.led
  refine Res.sat_mono (dtor_sat cfg c w hvc hl) ?_ (fun _ _ h => h)
  intro _ w' ⟨hu', hl', hub, hh, hlive, hmem, hown⟩
  -- an in-object buffer of somebody else: not `c`'s buffer, or the null block shared with `c`
  have hinl : ∀ d ∈ U, d ≠ c → (w.hdr d).inl < 5 → ((w.hdr d).N = 0 → w.mem (w.hdr d).inl = []) →
      w'.mem (w.hdr d).inl = w.mem (w.hdr d).inl := by
    intro d hdU hdc hdi5 hdnil
    refine inl_block_eq ((hs.inlsep d hdU c (hs.sub c hc) hdc).block hdnil)
      (inl_nil_of hu'.inl_nil (by rw [hh]) (by rw [hh]))
      (fun hne => hmem _ (hvc.ne_data hl hdi5 hne))
  have hother : ∀ d ∈ A, d ≠ c → VecOK cfg w' d ∧ w'.mem (w.hdr d).data = w.mem (w.hdr d).data := by
    intro d hd hdc
    have hvd := hs.ok.vec d hd
    have hsep := (hs.ok.sep d hd c hc hdc).data
    refine hvd.of_mem_eq (by rw [hh]) (hinl d (hs.sub d hd) hdc hvd.inl_lt hvd.inl_nil) (fun hne => ⟨hmem _ (hsep hne), ?_, by rw [hown]⟩)
    rw [hlive]
    split
    · exact (List.mem_erase_of_ne (hsep hne)).mpr (hvd.heap hne).1
    · exact (hvd.heap hne).1
  refine ⟨hs.of_same_data (fun d => by rw [hh]; exact ⟨rfl, rfl⟩) (fun d hd => (mem_filter_ne.mp hd).1)
    (fun d hd => (hother d (mem_filter_ne.mp hd).1 (mem_filter_ne.mp hd).2).1)
    (fun d _ => by rw [hh]) hl' hub ?_ ?_, hh, fun d hd hdc => (hother d hd hdc).2⟩
  ·
    intro b hb
    have hb' : b ∈ w.live ∧ ((w.hdr c).N < (w.hdr c).cap → b ≠ (w.hdr c).data) := by
      rw [hlive] at hb
      by_cases hcap : (w.hdr c).N < (w.hdr c).cap
      · rw [if_pos hcap] at hb
        exact ⟨List.mem_of_mem_erase hb, fun _ => ((hl.nodup.mem_erase_iff).mp hb).1⟩
      · rw [if_neg hcap] at hb
        exact ⟨hb, fun h => absurd h hcap⟩
    obtain ⟨d, hd, hdd⟩ := hs.ok.noleak b hb'.1
    refine ⟨d, mem_filter_ne.mpr ⟨hd, fun hdc => ?_⟩, hdd⟩
    rw [hdc] at hdd
    have hb5 := (hl.live_ok b hb'.1).1
    have hne : (w.hdr c).data ≠ (w.hdr c).inl := by have := hvc.inl_lt; omega
    exact hb'.2 ((hvc.heap_iff).mpr hne) hdd.symm
  · intro d hdU hdA
    by_cases hdc : d = c
    · rw [hdc]; exact hu'
    · have hud := hs.unborn d hdU (fun h => hdA (mem_filter_ne.mpr ⟨h, hdc⟩))
      exact hud.of_mem_eq (by rw [hh]) (hinl d hdU hdc hud.inl_lt hud.inl_nil)

end SvModel
