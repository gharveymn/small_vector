/-
Equations of the header operations (`getV`, `modV` and the setters built on it) and of `upd`.  Every header operation
returns normally and at most rewrites one entry of `World.hdr`; proofs step through them with these `rfl` equations instead of
unfolding the operations.
-/
import SvModel.Proofs.Inv

namespace SvModel
variable {α β : Type}

theorem upd_upd {γ} (f : Nat → γ) (k : Nat) (a b : γ) : upd (upd f k a) k b = upd f k b := by
  funext x; by_cases h : x = k
  · subst h; simp
  · simp [upd, h]

theorem upd_self {γ} (f : Nat → γ) (k : Nat) : upd f k (f k) = f := by
  funext x; by_cases h : x = k
  · subst h; simp
  · simp [upd, h]

theorem upd_comm {γ} (f : Nat → γ) {k k' : Nat} (h : k ≠ k') (a b : γ) : upd (upd f k a) k' b = upd (upd f k' b) k a := by
  funext x; by_cases h1 : x = k
  · subst h1; simp [upd, h]
  · by_cases h2 : x = k'
    · subst h2; simp [upd, h1]
    · simp [upd, h1, h2]

theorem getV_run (c : Nat) (w : World α) : getV c w = .ok (w.hdr c) w := rfl
theorem modV_run (c : Nat) (f : Vec → Vec) (w : World α) :
    modV c f w = .ok () { w with hdr := upd w.hdr c (f (w.hdr c)) } := rfl

theorem getV_bind (c : Nat) (k : Vec → M α β) (w : World α) : (getV c >>= k) w = k (w.hdr c) w := rfl
theorem modV_bind (c : Nat) (f : Vec → Vec) (k : Unit → M α β) (w : World α) :
    (modV c f >>= k) w = k () { w with hdr := upd w.hdr c (f (w.hdr c)) } := rfl

theorem setSize_run (c n : Nat) (w : World α) :
    setSize c n w = .ok () { w with hdr := upd w.hdr c { w.hdr c with size := n } } := rfl
theorem setSize_bind (c n : Nat) (k : Unit → M α β) (w : World α) :
    (setSize c n >>= k) w = k () { w with hdr := upd w.hdr c { w.hdr c with size := n } } := rfl
theorem setDataPtr_run (c b : Nat) (w : World α) :
    setDataPtr c b w = .ok () { w with hdr := upd w.hdr c { w.hdr c with data := b } } := rfl
theorem setCapacity_run (c n : Nat) (w : World α) :
    setCapacity c n w = .ok () { w with hdr := upd w.hdr c { w.hdr c with cap := n } } := rfl
theorem setData_run (c b cap size : Nat) (w : World α) :
    setData c b cap size w = .ok () { w with hdr := upd w.hdr c { w.hdr c with data := b, cap := cap, size := size } } := rfl
theorem setAlloc_run (c a : Nat) (w : World α) :
    setAlloc c a w = .ok () { w with hdr := upd w.hdr c { w.hdr c with alloc := a } } := rfl
theorem setToInlineStorage_run (c : Nat) (w : World α) :
    setToInlineStorage c w = .ok () { w with hdr := upd w.hdr c { w.hdr c with cap := (w.hdr c).N, data := (w.hdr c).inl } } := rfl

theorem modV_modV_run (c : Nat) (f g : Vec → Vec) (w : World α) :
    (modV c f >>= fun _ => modV c g) w = .ok () { w with hdr := upd w.hdr c (g (f (w.hdr c))) } := by
  rw [modV_bind, modV_run]
  simp only [upd_same, upd_upd]

theorem setData_setAlloc_run (c b cap size a : Nat) (w : World α) :
    (setData c b cap size >>= fun _ => setAlloc c a) w =
      .ok () { w with hdr := upd w.hdr c { w.hdr c with data := b, cap := cap, size := size, alloc := a } } :=
  modV_modV_run c _ _ w
theorem setDataPtr_setCapacity_run (c b cap : Nat) (w : World α) :
    (setDataPtr c b >>= fun _ => setCapacity c cap) w =
      .ok () { w with hdr := upd w.hdr c { w.hdr c with data := b, cap := cap } } :=
  modV_modV_run c _ _ w

theorem Ctl0.with_hdr {w w' : World α} (h : Ctl0 w w') (hd : Nat → Vec) : Ctl0 w { w' with hdr := hd } :=
  ⟨h.owner, h.live, h.next, h.ub, h.ntmp, h.len⟩

theorem Ctl0.drop_hdr {w w' : World α} {hd : Nat → Vec} (h : Ctl0 ({ w with hdr := hd } : World α) w') : Ctl0 w w' :=
  ⟨h.owner, h.live, h.next, h.ub, h.ntmp, h.len⟩

theorem Ledger.with_hdr {w : World α} (h : Ledger w) (hd : Nat → Vec) : Ledger { w with hdr := hd } :=
  h.congr rfl rfl rfl (fun _ => rfl)

theorem upd_upd_fst {γ} (f : Nat → γ) {k k' : Nat} (h : k ≠ k') (a b : γ) : upd (upd f k a) k' b k = a := by
  rw [upd_other _ _ _ _ h, upd_same]

theorem upd2_upd2 {γ} (f : Nat → γ) {k k' : Nat} (h : k ≠ k') (a b a' b' : γ) :
    upd (upd (upd (upd f k a) k' b) k a') k' b' = upd (upd f k a') k' b' := by
  rw [upd_comm _ h.symm b a', upd_upd, upd_upd]

theorem modV2_run (c o : Nat) (hoc : o ≠ c) (f g : Vec → Vec) (w : World α) :
    (modV c f >>= fun _ => modV o g) w = .ok () { w with hdr := upd (upd w.hdr c (f (w.hdr c))) o (g (w.hdr o)) } := by
  rw [modV_bind, modV_run]
  show Res.ok () { w with hdr := upd (upd w.hdr c (f (w.hdr c))) o (g (upd w.hdr c (f (w.hdr c)) o)) } = _
  rw [upd_other _ _ _ _ hoc]

end SvModel
