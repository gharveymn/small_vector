/-
Trace reasoning for C15: the iterator events (`deref` / `incr`) of the event log.

`NoIter m` — the computation `m` adds no iterator event to the trace, in either outcome.  It is closed under the monad
combinators; for the primitives and operations it is read off the structural pass of Proofs/Effect.lean.
-/
import SvModel.Proofs.Effect

namespace SvModel
variable {α β γ : Type}

def Ev.isIter : Ev → Bool
  | .deref _ _ => true
  | .incr _ _ => true
  | _ => false

def iterEvs (t : List Ev) : List Ev := t.filter Ev.isIter

theorem iterEvs_append (a b : List Ev) : iterEvs (a ++ b) = iterEvs a ++ iterEvs b := by simp [iterEvs]

def NoIter (m : M α β) : Prop := ∀ w, iterEvs (m w).world.trace = iterEvs w.trace

/-- `NoIter` as a postcondition, to stand beside a functional specification of the same run -/
theorem NoIter.sat {m : M α β} (h : NoIter m) (w : World α) :
    (m w).sat (fun _ w' => iterEvs w'.trace = iterEvs w.trace) (fun _ w' => iterEvs w'.trace = iterEvs w.trace) := by
  have := h w
  cases hm : m w <;> rw [hm] at this <;> exact this

theorem NoIter.graded : Graded (fun (_ : Nat) (w w' : World α) => iterEvs w'.trace = iterEvs w.trace) :=
  Graded.const (fun _ => rfl) (fun h1 h2 => h2.trans h1)

theorem NoIter.pure (b : β) : NoIter (pure b : M α β) := Rel.pure NoIter.graded b
theorem NoIter.throwE (e : Exc) : NoIter (throwE e : M α β) := Rel.throwE NoIter.graded e

theorem NoIter.bind {m : M α β} {f : β → M α γ} (h1 : NoIter m) (h2 : ∀ b, NoIter (f b)) : NoIter (m >>= f) :=
  Rel.bind (k1 := 0) (k2 := 0) NoIter.graded h1 h2

theorem NoIter.tryCatch {m : M α β} {h : Exc → M α β} (h1 : NoIter m) (h2 : ∀ e, NoIter (h e)) : NoIter (tryCatch m h) :=
  Rel.tryCatch (k1 := 0) (k2 := 0) NoIter.graded h1 h2

theorem NoIter.finally {m : M α β} {fin : M α Unit} (h1 : NoIter m) (h2 : NoIter fin) : NoIter (finally_ m fin) :=
  Rel.finally (k1 := 0) (k2 := 0) NoIter.graded h1 h2

theorem NoIter.ite {c : Prop} [Decidable c] {m n : M α β} (h1 : NoIter m) (h2 : NoIter n) : NoIter (if c then m else n) := by
  split <;> assumption

theorem NoIter.of_step {f : World α → Res (World α) β}
    (h : ∀ w, iterEvs (f w).world.trace = iterEvs w.trace) : NoIter f := h

theorem iterEvs_snoc (t : List Ev) (e : Ev) (h : e.isIter = false) : iterEvs (t ++ [e]) = iterEvs t := by
  simp [iterEvs, h]

theorem Counts.isIter : Counts Ev.isIter 0 where
  storage e h := by cases e <;> first | rfl | cases h
  alloc _ _ _ := Nat.le_refl _

theorem Adds.noIter {m : M α β} (h : Adds Ev.isIter 0 m) : NoIter m := fun w => by
  obtain ⟨_, es, ht, hc⟩ := h w
  have hes : iterEvs es = [] := List.filter_eq_nil_iff.mpr fun e he hi =>
    Nat.lt_irrefl 0 (Nat.lt_of_lt_of_le (List.countP_pos_iff.mpr ⟨e, he, hi⟩) hc)
  rw [ht, iterEvs_append, hes, List.append_nil]

theorem NoIter.getV (c : Nat) : NoIter (getV c : M α Vec) := fun _ => rfl
theorem NoIter.allocTemp : NoIter (allocTemp : M α Nat) := fun _ => rfl
theorem NoIter.allocate (c : Cfg) (a n : Nat) : NoIter (allocate c a n : M α Nat) := (Counts.isIter.allocate c a n).noIter
theorem NoIter.deallocate (a b n : Nat) : NoIter (deallocate a b n : M α Unit) := (Counts.isIter.deallocate a b n).noIter
theorem NoIter.destroyAt (c : Cfg) (b i : Nat) : NoIter (destroyAt c b i : M α Unit) := (Counts.isIter.destroyAt c b i).noIter
theorem NoIter.destroyRange (c : Cfg) (b : Nat) : ∀ (n first : Nat), NoIter (destroyRange c b first n : M α Unit) :=
  fun n first => (Counts.isIter.destroyRange c b n first).noIter
theorem NoIter.assignSrc (c : Cfg) (b i : Nat) (s : Src α) : NoIter (assignSrc c b i s) := (Counts.isIter.assignSrc c b i s).noIter
theorem NoIter.wipe (cfg : Cfg) (c : Nat) : NoIter (wipe cfg c : M α Unit) := (Counts.isIter.wipe cfg c).noIter
theorem NoIter.resetData (cfg : Cfg) (c nb ncap n : Nat) : NoIter (resetData cfg c nb ncap n : M α Unit) :=
  (Counts.isIter.resetData cfg c nb ncap n).noIter
theorem NoIter.appendElement (cfg : Cfg) (c : Nat) (s : Src α) : NoIter (appendElement cfg c s) :=
  (Counts.isIter.appendElement cfg c s).noIter
theorem NoIter.eraseToEnd (cfg : Cfg) (c pos : Nat) : NoIter (eraseToEnd cfg c pos : M α Unit) := (Counts.isIter.eraseToEnd cfg c pos).noIter
theorem NoIter.eraseRange (cfg : Cfg) (c f l : Nat) : NoIter (eraseRange cfg c f l : M α Nat) := (Counts.isIter.eraseRange cfg c f l).noIter

theorem NoIter.emit (e : Ev) (he : e.isIter = false) : NoIter (emit e : M α Unit) := by
  intro w; show iterEvs (w.trace ++ [e]) = _; exact iterEvs_snoc _ _ he

end SvModel
