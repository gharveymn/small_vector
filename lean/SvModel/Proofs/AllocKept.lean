/-
Allocator tracking for C07: `AllocKept m` — the computation `m` leaves the allocator field of every container header
unchanged, in either outcome.  Closed under the monad combinators; for the primitives and for every operation body up to
its final `maybe_copy` / `maybe_move` / `maybe_swap` it is read off the structural pass of Proofs/Effect.lean.
-/
import SvModel.Ops
import SvModel.Proofs.Effect

namespace SvModel
open Gen
variable {α β γ : Type}

def AllocKept (m : M α β) : Prop := ∀ w d, ((m w).world.hdr d).alloc = (w.hdr d).alloc

theorem AllocKept.graded : Graded (fun (_ : Nat) (w w' : World α) => ∀ d, (w'.hdr d).alloc = (w.hdr d).alloc) :=
  Graded.const (fun _ _ => rfl) (fun h1 h2 d => (h2 d).trans (h1 d))

theorem AllocKept.pure (b : β) : AllocKept (pure b : M α β) := Rel.pure AllocKept.graded b
theorem AllocKept.throwE (e : Exc) : AllocKept (throwE e : M α β) := Rel.throwE AllocKept.graded e

theorem AllocKept.bind {m : M α β} {f : β → M α γ} (h1 : AllocKept m) (h2 : ∀ b, AllocKept (f b)) : AllocKept (m >>= f) :=
  Rel.bind (k1 := 0) (k2 := 0) AllocKept.graded h1 h2

theorem AllocKept.tryCatch {m : M α β} {h : Exc → M α β} (h1 : AllocKept m) (h2 : ∀ e, AllocKept (h e)) : AllocKept (tryCatch m h) :=
  Rel.tryCatch (k1 := 0) (k2 := 0) AllocKept.graded h1 h2

theorem AllocKept.finally {m : M α β} {fin : M α Unit} (h1 : AllocKept m) (h2 : AllocKept fin) : AllocKept (finally_ m fin) :=
  Rel.finally (k1 := 0) (k2 := 0) AllocKept.graded h1 h2

theorem AllocKept.ite {c : Prop} [Decidable c] {m n : M α β} (h1 : AllocKept m) (h2 : AllocKept n) : AllocKept (if c then m else n) := by
  split <;> assumption

theorem Adds.allocKept {p : Ev → Bool} {k : Nat} {m : M α β} (h : Adds p k m) : AllocKept m := fun w d => (h w).1 d

theorem AllocKept.getV (c : Nat) : AllocKept (getV c : M α Vec) := fun _ _ => rfl
theorem AllocKept.setSize (c n : Nat) : AllocKept (setSize c n : M α Unit) := (Adds.setSize (p := fun _ => false) (k := 0) c n).allocKept
theorem AllocKept.setDefault (c : Nat) : AllocKept (setDefault c : M α Unit) := (Adds.setDefault (p := fun _ => false) (k := 0) c).allocKept
theorem AllocKept.destroyAt (c : Cfg) (b i : Nat) : AllocKept (destroyAt c b i : M α Unit) := (Counts.nothing.destroyAt c b i).allocKept
theorem AllocKept.deallocate (a b n : Nat) : AllocKept (deallocate a b n : M α Unit) := (Counts.nothing.deallocate a b n).allocKept
theorem AllocKept.allocate (c : Cfg) (a n : Nat) : AllocKept (allocate c a n : M α Nat) := (Counts.nothing.allocate c a n).allocKept
theorem AllocKept.destroyRange (c : Cfg) (b : Nat) : ∀ (n first : Nat), AllocKept (destroyRange c b first n : M α Unit) :=
  fun n first => (Counts.nothing.destroyRange c b n first).allocKept
theorem AllocKept.wipe (cfg : Cfg) (c : Nat) : AllocKept (wipe cfg c : M α Unit) := (Counts.nothing.wipe cfg c).allocKept
theorem AllocKept.resetData (cfg : Cfg) (c nb ncap n : Nat) : AllocKept (resetData cfg c nb ncap n : M α Unit) :=
  (Counts.nothing.resetData cfg c nb ncap n).allocKept

/-- a constructor: on return the new container `c` has allocator `a` and no other container's allocator changed; if it
    throws there is no new object, and no other container's allocator changed -/
def CtorSets {β : Type} (c a : Nat) (m : M α β) : Prop :=
  ∀ w, (m w).sat (fun _ w' => (w'.hdr c).alloc = a ∧ ∀ d, d ≠ c → (w'.hdr d).alloc = (w.hdr d).alloc)
                 (fun _ w' => ∀ d, d ≠ c → (w'.hdr d).alloc = (w.hdr d).alloc)

theorem ctor_sets {β : Type} {c a : Nat} {k : M α β} (h : AllocKept k) : CtorSets c a (setAlloc c a >>= fun _ => k) := by
  intro w
  rw [bind_run]
  show (k _).sat _ _
  generalize hw1 : ({ w with hdr := upd w.hdr c { w.hdr c with alloc := a } } : World α) = w1
  have hk := h w1
  have hc : (w1.hdr c).alloc = a := by subst hw1; simp
  have ho : ∀ d, d ≠ c → (w1.hdr d).alloc = (w.hdr d).alloc := by
    intro d hd; subst hw1; show ((upd w.hdr c _) d).alloc = _; rw [upd_other _ _ _ _ hd]
  cases hr : k w1 with
  | ok b w2 =>
    rw [hr] at hk; simp only [Res.world] at hk
    exact ⟨by rw [hk c, hc], fun d hd => by rw [hk d, ho d hd]⟩
  | thrown e w2 =>
    rw [hr] at hk; simp only [Res.world] at hk
    exact fun d hd => by rw [hk d, ho d hd]

end SvModel
