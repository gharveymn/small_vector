/-
C18 (b), CONDITIONAL noexcept: the internal functions whose `noexcept` depends on the element type
(`noexcept (is_nothrow_move_constructible …)`: uninitialized_move, move_initialize<LessEqualI>, move_assign_default<LessEqualI>,
swap_elements, swap_default) have no throwing path in the model WHEN THEIR CONDITION HOLDS — for every world and fault
list.  (In particular none of them calls the allocator's `allocate`: that fault point does not depend on the element type.)
The primitives first, then the functions, composed with the `NoThrow` combinators of Proofs/Hoare.lean.
-/
import SvModel.Proofs.Kernel

namespace SvModel
open Gen
variable {α β γ : Type}

theorem tick_off_nothrow (e : Exc) : NoThrow (tick false e : M α Unit) := fun w => ⟨(), w, rfl⟩
theorem getV_nothrow (c : Nat) : NoThrow (getV c : M α Vec) := fun w => ⟨_, w, rfl⟩
theorem modV_nothrow (c : Nat) (f : Vec → Vec) : NoThrow (modV c f : M α Unit) := fun _ => ⟨(), _, rfl⟩
theorem allocTemp_nothrow : NoThrow (allocTemp : M α Nat) := fun _ => ⟨_, _, rfl⟩
theorem readSlot_nothrow (b i : Nat) : NoThrow (readSlot b i : M α (Val α)) := by
  intro w; unfold readSlot; split <;> exact ⟨_, _, rfl⟩
theorem putObj_nothrow (c : Cfg) (b i : Nat) (v : Val α) (e : Ev) : NoThrow (putObj c b i v e : M α Unit) := by
  intro w; unfold putObj; split <;> exact ⟨_, _, rfl⟩
theorem setObj_nothrow (c : Cfg) (b i : Nat) (v : Val α) (e : Ev) : NoThrow (setObj c b i v e : M α Unit) := by
  intro w; unfold setObj; split <;> exact ⟨_, _, rfl⟩
theorem huskSlot_nothrow (c : Cfg) (b i : Nat) : NoThrow (huskSlot c b i : M α Unit) := by
  intro w; unfold huskSlot; split
  · split <;> exact ⟨_, _, rfl⟩
  · exact ⟨_, _, rfl⟩

theorem writeMove_nothrow (c : Cfg) {put : Val α → M α Unit} (hput : ∀ v, NoThrow (put v)) (sb si : Nat) :
    NoThrow (writeSrc c put false (.moveOf sb si : Src α)) :=
  NoThrow.bind (tick_off_nothrow _) (fun _ => NoThrow.bind (readSlot_nothrow _ _) (fun v =>
    NoThrow.bind (hput v) (fun _ => huskSlot_nothrow _ _ _)))

theorem constructMove_nothrow (c : Cfg) (h : c.tMove = false) (b i sb si : Nat) : NoThrow (constructSrc c b i (.moveOf sb si : Src α)) := by
  unfold constructSrc
  rw [h]
  exact writeMove_nothrow c (fun _ => putObj_nothrow _ _ _ _ _) sb si

theorem assignMove_nothrow (c : Cfg) (h : c.tMasg = false) (b i sb si : Nat) : NoThrow (assignSrc c b i (.moveOf sb si : Src α)) := by
  unfold assignSrc
  rw [h]
  exact writeMove_nothrow c (fun _ => setObj_nothrow _ _ _ _ _) sb si

theorem uninitGen_move_nothrow (c : Cfg) (h : c.tMove = false) (b d sb : Nat) :
    ∀ (n si done : Nat), NoThrow (uninitGen c b d done (srcsMove sb si n : List (Src α)))
  | 0, _, _ => by simp only [srcsMove, List.range_zero, List.map_nil]; exact NoThrow.pure ()
  | n+1, si, done => by
    rw [srcsMove_succ]
    unfold uninitGen
    exact NoThrow.bind (NoThrow.tryCatch _ (constructMove_nothrow c h _ _ _ _)) (fun _ => uninitGen_move_nothrow c h b d sb n (si + 1) (done + 1))

/-- uninitialized_move (noexcept (is_nothrow_move_constructible)): no throwing path for a nothrow-movable element type -/
theorem uninitializedMove_nothrow (cfg : Cfg) (h : cfg.tMove = false) (sb si n db di : Nat) :
    NoThrow (uninitializedMove cfg false sb si n db di : M α Unit) := by
  rw [uninitializedMove_false]
  exact uninitGen_move_nothrow cfg h db di sb n si 0

theorem assignGen_move_nothrow (c : Cfg) (h : c.tMasg = false) (b sb : Nat) :
    ∀ (n si d : Nat), NoThrow (assignGen c b d (srcsMove sb si n : List (Src α)))
  | 0, _, _ => by simp only [srcsMove, List.range_zero, List.map_nil]; exact NoThrow.pure ()
  | n+1, si, d => by
    rw [srcsMove_succ]
    unfold assignGen
    exact NoThrow.bind (assignMove_nothrow c h _ _ _ _) (fun _ => assignGen_move_nothrow c h b sb n (si + 1) (d + 1))

theorem swapAt_nothrow (c : Cfg) (h1 : c.tMove = false) (h2 : c.tMasg = false) (b1 i1 b2 i2 : Nat) : NoThrow (swapAt c b1 i1 b2 i2 : M α Unit) := by
  unfold swapAt
  exact NoThrow.bind allocTemp_nothrow (fun t => NoThrow.bind (constructMove_nothrow c h1 _ _ _ _) (fun _ =>
    NoThrow.finally (NoThrow.bind (assignMove_nothrow c h2 _ _ _ _) (fun _ => assignMove_nothrow c h2 _ _ _ _)) (destroyAt_nothrow _ _ _)))

theorem swapRanges_nothrow (c : Cfg) (h1 : c.tMove = false) (h2 : c.tMasg = false) (b1 b2 : Nat) :
    ∀ (n a1 a2 : Nat), NoThrow (swapRanges c b1 a1 b2 a2 n : M α Unit)
  | 0, _, _ => NoThrow.pure ()
  | n+1, a1, a2 => NoThrow.bind (swapAt_nothrow c h1 h2 _ _ _ _) (fun _ => swapRanges_nothrow c h1 h2 b1 b2 n (a1 + 1) (a2 + 1))

theorem swapSize_nothrow (c o : Nat) : NoThrow (swapSize c o : M α Unit) := by
  unfold swapSize SvModel.setSize
  exact NoThrow.bind (getV_nothrow _) (fun _ => NoThrow.bind (getV_nothrow _) (fun _ => NoThrow.bind (modV_nothrow _ _) (fun _ => modV_nothrow _ _)))

/-- swap_elements (noexcept (nothrow move constructible && nothrow swappable)) -/
theorem swapElements_nothrow (cfg : Cfg) (h1 : cfg.tMove = false) (h2 : cfg.tMasg = false) (c o : Nat) : NoThrow (swapElements cfg c o : M α Unit) := by
  unfold swapElements
  exact NoThrow.bind (getV_nothrow _) (fun v => NoThrow.bind (getV_nothrow _) (fun ov =>
    NoThrow.bind (swapRanges_nothrow cfg h1 h2 _ _ _ _ _) (fun _ => NoThrow.bind (uninitializedMove_nothrow cfg h1 _ _ _ _ _) (fun _ =>
      NoThrow.bind (destroyRange_nothrow _ _ _ _) (fun _ => swapSize_nothrow _ _)))))

theorem swapAllocation_nothrow (c o : Nat) : NoThrow (swapAllocation c o : M α Unit) := fun _ => ⟨_, _, rfl⟩
theorem maybeSwapAlloc_nothrow (cfg : Cfg) (c o : Nat) : NoThrow (maybeSwapAlloc cfg c o : M α Unit) := fun _ => ⟨_, _, rfl⟩

/-- swap_default (conditional noexcept): header exchange, inline ↔ heap hand-over or element-wise swap — never `allocate` -/
theorem swapDefault_nothrow (cfg : Cfg) (h1 : cfg.tMove = false) (h2 : cfg.tMasg = false) (c o : Nat) : NoThrow (swapDefault cfg c o : M α Unit) := by
  unfold swapDefault SvModel.setDataPtr SvModel.setCapacity
  refine NoThrow.bind (getV_nothrow _) (fun v => NoThrow.bind (getV_nothrow _) (fun ov => NoThrow.bind ?_ (fun _ => maybeSwapAlloc_nothrow _ _ _)))
  refine NoThrow.ite (swapAllocation_nothrow _ _) (NoThrow.ite ?_ (NoThrow.ite (swapElements_nothrow cfg h1 h2 _ _) (swapElements_nothrow cfg h1 h2 _ _)))
  exact NoThrow.bind (uninitializedMove_nothrow cfg h1 _ _ _ _ _) (fun _ => NoThrow.bind (destroyRange_nothrow _ _ _ _) (fun _ =>
    NoThrow.bind (modV_nothrow _ _) (fun _ => NoThrow.bind (modV_nothrow _ _) (fun _ => NoThrow.bind (modV_nothrow _ _) (fun _ =>
      NoThrow.bind (modV_nothrow _ _) (fun _ => swapSize_nothrow _ _))))))

theorem setDefault_nothrow (c : Nat) : NoThrow (setDefault c : M α Unit) := by
  unfold setDefault setToInlineStorage SvModel.setSize
  exact NoThrow.bind (modV_nothrow _ _) (fun _ => modV_nothrow _ _)

theorem wipe_nothrow (cfg : Cfg) (c : Nat) : NoThrow (wipe cfg c : M α Unit) := by
  unfold wipe
  exact NoThrow.bind (getV_nothrow _) (fun v => NoThrow.bind (destroyRange_nothrow _ _ _ _) (fun _ =>
    NoThrow.ite (deallocate_nothrow _ _ _) (NoThrow.pure ())))

theorem moveAllocationPointer_nothrow (cfg : Cfg) (c o : Nat) : NoThrow (moveAllocationPointer cfg c o : M α Unit) := by
  unfold moveAllocationPointer resetData SvModel.setData
  exact NoThrow.bind (getV_nothrow _) (fun ov => NoThrow.bind (NoThrow.bind (wipe_nothrow _ _) (fun _ => modV_nothrow _ _)) (fun _ => setDefault_nothrow _))

/-- move_initialize, the overload for a source whose inline capacity is not larger (`noexcept (is_nothrow_move_constructible)`):
    steal the buffer or move the elements into the in-object buffer — no allocation, no throwing path -/
theorem moveInitialize_le_nothrow (cfg : Cfg) (h : cfg.tMove = false) (c o : Nat) (w : World α) (hle : (w.hdr o).N ≤ (w.hdr c).N) :
    ∃ b w', moveInitialize cfg c o w = .ok b w' := by
  unfold moveInitialize
  rw [getV_bind, getV_bind]
  have steal : NoThrow (SvModel.setData c (w.hdr o).data (w.hdr o).cap (w.hdr o).size >>= fun _ => setDefault o : M α Unit) := by
    exact NoThrow.bind (modV_nothrow _ _) (fun _ => setDefault_nothrow _)
  have inl : NoThrow (setToInlineStorage c >>= fun _ =>
      uninitializedMove cfg false (w.hdr o).data 0 (w.hdr o).size (w.hdr c).inl 0 >>= fun _ => SvModel.setSize c (w.hdr o).size : M α Unit) := by
    unfold setToInlineStorage SvModel.setSize
    exact NoThrow.bind (modV_nothrow _ _) (fun _ => NoThrow.bind (uninitializedMove_nothrow cfg h _ _ _ _ _) (fun _ => modV_nothrow _ _))
  by_cases h0 : (w.hdr c).N = 0 ∧ (w.hdr o).N = 0
  · rw [if_pos h0]; exact steal w
  · rw [if_neg h0, if_pos hle]; exact (NoThrow.ite steal inl) w

/-- move_assign_default, the overload for a source whose inline capacity is not larger
    (`noexcept (nothrow move assignable && nothrow move constructible)`) -/
theorem moveAssignDefault_le_nothrow (cfg : Cfg) (h1 : cfg.tMove = false) (h2 : cfg.tMasg = false) (c o : Nat) (w : World α)
    (hle : (w.hdr o).N ≤ (w.hdr c).N) : ∃ b w', moveAssignDefault cfg c o w = .ok b w' := by
  unfold moveAssignDefault
  rw [getV_bind, getV_bind]
  have inplace : ∀ sl, NoThrow (moveAssignInPlace cfg c (w.hdr c) (w.hdr o) sl : M α Unit) := by
    intro sl
    unfold moveAssignInPlace
    exact NoThrow.ite (NoThrow.bind (assignGen_move_nothrow cfg h2 _ _ _ _ _) (fun _ => uninitializedMove_nothrow cfg h1 _ _ _ _ _))
      (NoThrow.bind (assignGen_move_nothrow cfg h2 _ _ _ _ _) (fun _ => destroyRange_nothrow _ _ _ _))
  refine NoThrow.bind ?_ (fun _ => modV_nothrow _ _) w
  by_cases h0 : (w.hdr c).N = 0 ∧ (w.hdr o).N = 0
  · rw [if_pos h0]; exact moveAllocationPointer_nothrow _ _ _
  · rw [if_neg h0, if_pos hle]
    refine NoThrow.ite (moveAllocationPointer_nothrow _ _ _) (NoThrow.bind (NoThrow.ite ?_ (inplace _)) (fun _ => modV_nothrow _ _))
    exact NoThrow.bind (uninitializedMove_nothrow cfg h1 _ _ _ _ _) (fun _ => NoThrow.bind (destroyRange_nothrow _ _ _ _) (fun _ =>
      NoThrow.bind (deallocate_nothrow _ _ _) (fun _ => NoThrow.bind (modV_nothrow _ _) (fun _ => modV_nothrow _ _))))

end SvModel
