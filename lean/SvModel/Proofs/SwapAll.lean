/-
swap, every path, inside a system of containers: `swap_unequal_no_propagate` (allocators unequal and not propagating on
swap: always element by element, reallocating the smaller-capacity container when the other's elements do not fit) and
the member `swap` for every allocator relation.
-/
import SvModel.Proofs.SwapSys
import SvModel.Proofs.SwapUnequal

namespace SvModel
open Gen
variable {α : Type}

/-- outcome of a swap that may allocate: as `SwapPost` without the claim that the set of live blocks is unchanged -/
def SwapPostW (cfg : Cfg) (w : World α) (U A : List Nat) (c o : Nat) (w' : World α) : Prop :=
  SysAll cfg w' U A ∧ (∀ xs, Holds w o xs → Holds w' c xs) ∧ (∀ xs, Holds w c xs → Holds w' o xs) ∧
    (∀ d ∈ A, d ≠ c → d ≠ o → ∀ xs, Holds w d xs → Holds w' d xs)

def SwapFailA (cfg : Cfg) (w : World α) (U A : List Nat) (c o : Nat) (e : Exc) (w' : World α) : Prop :=
  (e = .alloc ∨ e = .elem) ∧ SysAll cfg w' U A ∧ (∃ ys, Holds w' c ys) ∧ (∃ ys, Holds w' o ys) ∧
    (∀ d ∈ A, d ≠ c → d ≠ o → ∀ xs, Holds w d xs → Holds w' d xs) ∧ w'.live = w.live

theorem SwapPostW.symm {cfg : Cfg} {w w' : World α} {U A : List Nat} {c o : Nat} (h : SwapPostW cfg w U A o c w') : SwapPostW cfg w U A c o w' :=
  ⟨h.1, h.2.2.1, h.2.1, fun d hd h1 h2 => h.2.2.2 d hd h2 h1⟩

theorem SwapFailA.symm {cfg : Cfg} {w w' : World α} {U A : List Nat} {c o : Nat} {e : Exc} (h : SwapFailA cfg w U A o c e w') : SwapFailA cfg w U A c o e w' :=
  ⟨h.1, h.2.1, h.2.2.2.1, h.2.2.1, fun d hd h1 h2 => h.2.2.2.2.1 d hd h2 h1, h.2.2.2.2.2⟩

theorem SwapPost.toW {cfg : Cfg} {w w' : World α} {U A : List Nat} {c o : Nat} (h : SwapPost cfg w U A c o w') : SwapPostW cfg w U A c o w' :=
  ⟨h.1, h.2.1, h.2.2.1, h.2.2.2.1⟩
theorem SwapFail.toA {cfg : Cfg} {w w' : World α} {U A : List Nat} {c o : Nat} {e : Exc} (h : SwapFail cfg w U A c o e w') : SwapFailA cfg w U A c o e w' :=
  ⟨Or.inr h.1, h.2⟩

theorem bind_pure_ret {β γ : Type} (m : M α β) (T : β → M α Unit) (R : β → M α γ) :
    (m >>= fun b => T b >>= fun _ => R b) = ((m >>= fun b => T b >>= fun _ => pure b) >>= R) := by
  funext w
  rw [bind_run, bind_run, bind_run]
  cases m w with
  | thrown e w1 => rfl
  | ok b w1 =>
    simp only []
    rw [bind_run, bind_run]
    cases T b w1 <;> rfl

theorem SysAll.of_abort {cfg : Cfg} {w w' : World α} {U A : List Nat} {c o : Nat} (hs : SysAll cfg w U A) (hc : c ∈ A) (ho : o ∈ A)
    (h : SwapAbort cfg w w' c o) :
    SysAll cfg w' U A ∧ (∃ ys, Holds w' c ys) ∧ (∃ ys, Holds w' o ys) ∧
      (∀ d ∈ A, d ≠ c → d ≠ o → ∀ xs, Holds w d xs → Holds w' d xs) ∧ w'.live = w.live := by
  obtain ⟨wh, wh2, hb1, hb2, hst, hl1, hl2⟩ := h
  have hs1 := hs.step ho hb1
  have hs2 := hs1.step hc hb2
  have hb3 : Basic cfg wh2 w' c := hst.basic hb2.led hb2.vec
  have hs3 := hs2.step hc hb3
  refine ⟨hs3, (hs3.ok.vec c hc).holds_exists, (hs3.ok.vec o ho).holds_exists, ?_, ?_⟩
  · intro d hd hdc hdo xs hx
    exact hs2.ok.holds_other hc hb3 hd hdc (hs1.ok.holds_other hc hb2 hd hdc (hs.ok.holds_other ho hb1 hd hdo hx))
  · rw [hst.live, hl2]

theorem SysAll.swapUnequalNoPropagate {cfg : Cfg} {w : World α} {U A : List Nat} {c o : Nat} (hs : SysAll cfg w U A)
    (hc : c ∈ A) (ho : o ∈ A) (hco : c ≠ o) (hcap : (w.hdr c).cap ≤ (w.hdr o).cap) (hp : cfg.policy.pocs = false) :
    (SvModel.swapUnequalNoPropagate cfg c o w).sat (fun _ w' => SwapPostW cfg w U A c o w') (fun e w' => SwapFailA cfg w U A c o e w') := by
  have hoc : o ≠ c := fun e => hco e.symm
  have hvc := hs.ok.vec c hc
  have hvo := hs.ok.vec o ho
  have hl := hs.ok.led
  have hNo := hs.ok.nmax o ho
  have hocapmax : (w.hdr o).cap ≤ cfg.maxSize := by have := hvo.cap_max; omega
  have hosz := hvo.size_le
  have hcsz := hvc.size_le
  unfold SvModel.swapUnequalNoPropagate
  rw [bind_run, getV_run]; simp only []
  rw [bind_run, getV_run]; simp only []
  rw [guard_swapUnequalNoPropagate_0_eq, guard_swapUnequalNoPropagate_1_eq, guard_swapUnequalNoPropagate_2_eq]
  by_cases hgrow : (w.hdr c).cap < (w.hdr o).size
  · rw [if_pos (decide_eq_true hgrow)]
    obtain ⟨hd, hi⟩ := hs.ok.apart hc ho hoc (by omega)
    obtain ⟨hb1, hb2⟩ := newCapacity_bounds cfg.maxSize (w.hdr c).cap (w.hdr o).size hgrow (by omega)
    generalize hncap : newCapacity cfg.maxSize (w.hdr c).cap (w.hdr o).size = ncap at hb1 hb2
    have hle : (w.hdr c).size ≤ (w.hdr o).size := by omega
    have hN : (w.hdr c).N < ncap := by have := hvc.cap_ge; omega
    rw [bind_pure_ret (allocate cfg (w.hdr c).alloc ncap)]
    have hbuild := swapUneq_build_sat cfg c o w ncap hvc hl hvo hle hb1 hd hi
    refine sat_bind (Q := fun _ w' => ∃ wh, Basic cfg w wh o ∧ Basic cfg wh w' c ∧
          w'.hdr c = { w.hdr c with data := w.next, cap := ncap, size := (w.hdr o).size } ∧
          w'.hdr o = { w.hdr o with size := (w.hdr c).size } ∧
          (∀ k, k < (w.hdr o).size → (w'.mem w.next)[k]? = (w.mem (w.hdr o).data)[k]?) ∧
          (∀ k, k < (w.hdr c).size → (w'.mem (w.hdr o).data)[k]? = (w.mem (w.hdr c).data)[k]?))
        (E1 := fun e w' => (e = .alloc ∨ e = .elem) ∧ SwapAbort cfg w w' c o)
        (sat_bind hbuild (fun nb w5 hb' => ?_) (fun e w' h => h)) (fun _ w1 hpost => ?_) (fun e w' hab' => ?_)
    · obtain ⟨hnb, hbt⟩ := hb'
      subst hnb
      exact Res.sat_mono (swapUneq_finish_sat cfg c o w w5 ncap hvc hl hvo hco hbt hN hb2 hle hb1 hd hi) (fun _ _ h => h) (fun _ _ h => h.elim)
    · obtain ⟨wh, hbo, hbc, hhc, hho, hvn, hvo'⟩ := hpost
      obtain ⟨hs1, _, _, hoth⟩ := hs.two_steps hc ho hbo hbc
      obtain ⟨w2, hrun, hs2, _, keep⟩ := hs1.maybeSwapAlloc_keeps hc ho hco (Or.inr hp)
      rw [hrun]
      refine ⟨hs2, ?_, ?_, fun d hd' hdc hdo xs hx => keep d xs (hoth d hd' hdc hdo xs hx)⟩
      · intro xs hx
        exact keep c xs (hx.of_slots (by rw [hhc]) (fun i hi' => by rw [hhc]; exact hvn i hi'))
      · intro xs hx
        exact keep o xs (hx.of_slots (by rw [hho]) (fun i hi' => by rw [hho]; exact hvo' i hi'))
    · obtain ⟨he, hab⟩ := hab'
      obtain ⟨a, b, c', d, e'⟩ := hs.of_abort hc ho hab
      exact ⟨he, a, b, c', d, e'⟩
  · rw [if_neg (by simpa using hgrow)]
    exact Res.sat_mono (hs.swapElementsOrdered hc ho hco (Or.inr hp) (by omega) (by omega)) (fun _ _ h => h.toW) (fun _ _ h => h.toA)

/-- `hal`: allocators that the traits declare interchangeable without propagation really are equal -/
theorem SysAll.swapAny {cfg : Cfg} {w : World α} {U A : List Nat} {c o : Nat} (hs : SysAll cfg w U A)
    (hc : c ∈ A) (ho : o ∈ A) (hco : c ≠ o) (hN : (w.hdr c).N = (w.hdr o).N)
    (hnull : (w.hdr c).N = 0 → (w.hdr c).inl = (w.hdr o).inl)
    (hal : allocationsAreSwappable cfg.policy = true → SwapAllocOK cfg w c o) :
    (SvModel.swap cfg c o w).sat (fun _ w' => SwapPostW cfg w U A c o w') (fun e w' => SwapFailA cfg w U A c o e w') := by
  have hoc : o ≠ c := fun e => hco e.symm
  by_cases hok : SwapAllocOK cfg w c o
  · exact Res.sat_mono (SysAll.swap hs hc ho hco hN hnull hok) (fun _ _ h => h.toW) (fun _ _ h => h.toA)
  · have hsw : ¬ allocationsAreSwappable cfg.policy = true := fun h => hok (hal h)
    have hp : cfg.policy.pocs = false := pocs_false_of_not_swappable hsw
    have hneq : ¬ (w.hdr o).alloc = (w.hdr c).alloc := fun h => hok (Or.inr h.symm)
    unfold SvModel.swap
    rw [bind_run, getV_run]; simp only []
    rw [bind_run, getV_run]; simp only []
    rw [if_neg hsw, guard_swap2_0_eq, guard_swap2_1_eq, guard_swap2_2_eq]
    have hb : ((w.hdr o).alloc == (w.hdr c).alloc) = false := by simpa using hneq
    rw [hb]
    simp only [Bool.false_eq_true, if_false]
    by_cases hlt : (w.hdr c).cap < (w.hdr o).cap
    · rw [if_pos (decide_eq_true hlt)]
      exact SysAll.swapUnequalNoPropagate hs hc ho hco (Nat.le_of_lt hlt) hp
    · rw [if_neg (by simpa using hlt)]
      exact Res.sat_mono (SysAll.swapUnequalNoPropagate hs ho hc hoc (by omega) hp) (fun _ _ h => h.symm) (fun _ _ h => h.symm)

end SvModel
