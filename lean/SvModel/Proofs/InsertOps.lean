/-
The public single-element insert: emplace_at = emplace / insert (pos, x) / insert (pos, T&&), composed from the in-place
paths (Proofs/InPlace.lean) and the reallocating paths (Proofs/Insert.lean, Proofs/Append.lean).
-/
import SvModel.Proofs.InPlace

namespace SvModel
open Gen
variable {α : Type}

theorem emplaceIntoReallocation_sat (cfg : Cfg) (c pos : Nat) (s : Src α) (w : World α)
    (hv : VecOK cfg w c) (hl : Ledger w) (hNmax : (w.hdr c).N ≤ cfg.maxSize) (hfull : (w.hdr c).size = (w.hdr c).cap)
    (hpos : pos ≤ (w.hdr c).size) (ha : ArgOK cfg w c s) (hstrong : movesFor cfg true = true → cfg.tMove = false) :
    (emplaceIntoReallocation cfg c pos s w).sat
      (fun r w' => r = pos ∧ Inserted cfg w w' c pos [srcVal w s] ∧ (w'.hdr c).data = w.next ∧
                   (w'.hdr c).cap = newCapacity cfg.maxSize (w.hdr c).cap ((w.hdr c).size + 1))
      (fun _ w' => InsBasic cfg w w' c ∧ w'.hdr c = w.hdr c ∧ (pos = (w.hdr c).size → Strong w w')) := by
  unfold emplaceIntoReallocation
  rw [bind_run, getV_run]
  simp only []
  rw [guard_emplaceIntoReallocation_0_eq, guard_emplaceIntoReallocation_1_eq]
  by_cases hend : pos = (w.hdr c).size
  · rw [if_pos (decide_eq_true hend)]
    refine Res.sat_mono (emplaceIntoReallocationEnd_sat cfg c s w hv hl hfull hNmax ha hstrong) ?_ ?_
    · intro r w' ⟨hr, hp⟩
      obtain ⟨g1, g2⟩ := hp.grown (by omega)
      exact ⟨by rw [hr, hend], hp.inserted hend, g1, g2⟩
    · intro e w' hs
      exact ⟨hs.insBasic hl hv, by rw [hs.hdr], fun _ => hs⟩
  rw [if_neg (by simpa using hend)]
  by_cases hmx : cfg.maxSize = (w.hdr c).size
  · rw [if_pos (decide_eq_true hmx)]
    have hs := Strong.refl (w := w) hl
    exact ⟨hs.insBasic hl hv, rfl, fun _ => hs⟩
  rw [if_neg (by simpa using hmx)]
  have hcapmax := hv.cap_le_max hNmax
  have haa : ArgsOK cfg w c [s] := argsOK_replicate 1 ha
  refine Res.sat_mono (insertRealloc_sat cfg c pos [s] w hv hl hpos (by simp; omega) (by simp; omega) haa) ?_ ?_
  · intro r w' ⟨hr, hi, h1, h2⟩
    exact ⟨hr, by simpa using hi, h1, by simpa using h2⟩
  · intro e w' ⟨hb, hh, hlv⟩
    exact ⟨⟨hb, by rw [hh], by rw [hh], hlv⟩, hh, fun h => absurd h hend⟩

/-- emplace_at: emplace (pos, args…) / insert (pos, const T&) (`rv = false`, the argument may alias an own element) and
    insert (pos, T&&) (`rv = true`, an rvalue from outside) -/
theorem emplaceAt_sat (cfg : Cfg) (c pos : Nat) (s : Src α) (rv : Bool) (w : World α)
    (hv : VecOK cfg w c) (hl : Ledger w) (hNmax : (w.hdr c).N ≤ cfg.maxSize)
    (hpos : pos ≤ (w.hdr c).size) (ha : ArgOK cfg w c s) (hrv : rv = true → ∃ a, s = .extMove a)
    (hstrong : movesFor cfg true = true → cfg.tMove = false) :
    (emplaceAt cfg c pos s rv w).sat
      (fun r w' => r = pos ∧ Inserted cfg w w' c pos [srcVal w s] ∧
                   ((w.hdr c).size < (w.hdr c).cap → InsKept w w' c) ∧
                   (¬ (w.hdr c).size < (w.hdr c).cap → (w'.hdr c).data = w.next ∧
                      (w'.hdr c).cap = newCapacity cfg.maxSize (w.hdr c).cap ((w.hdr c).size + 1)))
      (fun _ w' => InsBasic cfg w w' c ∧ (pos = (w.hdr c).size → Strong w w')) := by
  unfold emplaceAt
  rw [bind_run, getV_run]
  simp only []
  rw [guard_emplaceAt_0_eq]
  by_cases hroom : (w.hdr c).size < (w.hdr c).cap
  · rw [if_pos (decide_eq_true hroom)]
    by_cases hsel : (rv && cfg.policy.nothrowMove) = true
    · rw [if_pos hsel]
      simp only [Bool.and_eq_true] at hsel
      obtain ⟨a, rfl⟩ := hrv hsel.1
      exact Res.sat_mono (emplaceIntoCurrentRv_sat cfg c pos a w hv hl hroom hpos hsel.2)
        (fun _ _ ⟨hr, hi, hk⟩ => ⟨hr, hi, fun _ => hk, fun h => absurd hroom h⟩) (fun _ _ hf => ⟨hf.1.insBasic, hf.2⟩)
    · rw [if_neg hsel]
      exact Res.sat_mono (emplaceIntoCurrent_sat cfg c pos s w hv hl hroom hpos ha)
        (fun _ _ ⟨hr, hi, hk⟩ => ⟨hr, hi, fun _ => hk, fun h => absurd hroom h⟩) (fun _ _ hf => ⟨hf.1.insBasic, hf.2⟩)
  · rw [if_neg (by simpa using hroom)]
    have hfull : (w.hdr c).size = (w.hdr c).cap := by have := hv.size_le; omega
    refine Res.sat_mono (emplaceIntoReallocation_sat cfg c pos s w hv hl hNmax hfull hpos ha hstrong) ?_ ?_
    · intro r w' ⟨hr, hi, h1, h2⟩
      exact ⟨hr, hi, fun h => absurd h hroom, fun _ => ⟨h1, h2⟩⟩
    · intro e w' ⟨hb, _, hs⟩
      exact ⟨hb, hs⟩

end SvModel
