/-
assign (n, x) and assign (first, last) over a multi-pass range of outside values: `assign_with_copies` /
`assign_with_range` (forward iterators).  Three branches: reallocate (build in a new block, then reset_data: a throw
leaves the world untouched), grow in place (assign over the live prefix, construct the rest), shrink in place (assign,
destroy the tail).  A throw gives the basic guarantee with the same buffer and capacity.
-/
import SvModel.Proofs.InsertOps
import SvModel.Proofs.GrowCalls

namespace SvModel
open Gen
variable {α : Type}

structure Assigned (cfg : Cfg) (w w' : World α) (c : Nat) (vals : List (Val α)) : Prop where
  basic : Basic cfg w w' c
  holds : Holds w' c vals
  alloc : (w'.hdr c).alloc = (w.hdr c).alloc
  inplace : vals.length ≤ (w.hdr c).cap → InsKept w w' c
  grown : (w.hdr c).cap < vals.length →
            (w'.hdr c).data = w.next ∧ (w'.hdr c).cap = newCapacity cfg.maxSize (w.hdr c).cap vals.length

/-- the sources are values from outside every container -/
def External (srcs : List (Src α)) : Prop := ∀ s ∈ srcs, s.loc = none

theorem External.nonmoving {cfg : Cfg} {srcs : List (Src α)} (h : External srcs) : NonMoving cfg srcs := by
  intro s hs
  have := h s hs
  cases s <;> simp [Src.loc] at this <;> rfl

theorem External.live {srcs : List (Src α)} (h : External srcs) (w : World α) : ∀ s ∈ srcs, SrcLive w s := by
  intro s hs b i hl'
  rw [h s hs] at hl'; cases hl'

theorem External.srcVal {srcs : List (Src α)} (h : External srcs) (w w' : World α) : ∀ s ∈ srcs, srcVal w' s = srcVal w s := by
  intro s hs
  exact srcVal_congr w w' s (fun b i hl' => by rw [h s hs] at hl'; cases hl')

theorem External.sub {srcs sub : List (Src α)} (h : External srcs) (hs : ∀ s ∈ sub, s ∈ srcs) : External sub :=
  fun s hm => h s (hs s hm)

/-- sources that are not modified by reading them and do not live in `c`'s own storage: values from outside, or copies of
    live elements of blocks that existed before the call and are neither `c`'s buffer nor its in-object buffer
    (the elements of ANOTHER container: copy assignment) -/
structure Foreign (cfg : Cfg) (w : World α) (c : Nat) (srcs : List (Src α)) : Prop where
  nonmoving : NonMoving cfg srcs
  live  : ∀ s ∈ srcs, SrcLive w s
  apart : ∀ s ∈ srcs, ∀ b i, s.loc = some (b, i) → b ≠ (w.hdr c).data ∧ b ≠ (w.hdr c).inl ∧ b < w.next

theorem External.foreign {cfg : Cfg} {srcs : List (Src α)} (h : External srcs) (w : World α) (c : Nat) : Foreign cfg w c srcs :=
  ⟨h.nonmoving, h.live w, fun s hs b i hl' => by rw [h s hs] at hl'; cases hl'⟩

theorem External.argsOK {cfg : Cfg} {srcs : List (Src α)} (h : External srcs) (w : World α) (c : Nat) : ArgsOK cfg w c srcs :=
  ⟨h.nonmoving, h.live w, fun s hs b i hl' => by rw [h s hs] at hl'; cases hl'⟩

theorem Foreign.live_of {cfg : Cfg} {w w' : World α} {c : Nat} {srcs : List (Src α)} (h : Foreign cfg w c srcs)
    (hag : ∀ s ∈ srcs, ∀ b i, s.loc = some (b, i) → (w'.mem b)[i]? = (w.mem b)[i]?) : ∀ s ∈ srcs, SrcLive w' s :=
  fun s hs => (h.live s hs).of_eq (hag s hs)

theorem Foreign.srcVal_of {cfg : Cfg} {w w' : World α} {c : Nat} {srcs : List (Src α)} (_ : Foreign cfg w c srcs)
    (hag : ∀ s ∈ srcs, ∀ b i, s.loc = some (b, i) → (w'.mem b)[i]? = (w.mem b)[i]?) : ∀ s ∈ srcs, srcVal w' s = srcVal w s :=
  fun s hs => srcVal_congr w w' s (hag s hs)

theorem Foreign.sub {cfg : Cfg} {w : World α} {c : Nat} {srcs sub : List (Src α)} (h : Foreign cfg w c srcs) (hs : ∀ s ∈ sub, s ∈ srcs) :
    Foreign cfg w c sub :=
  ⟨fun s hm => h.nonmoving s (hs s hm), fun s hm => h.live s (hs s hm), fun s hm => h.apart s (hs s hm)⟩

/-- the first half of a copying reallocation, for any allocator `a` and any continuation `k` -/
theorem buildCopy_sat {β : Type} (cfg : Cfg) (c a ncap : Nat) (srcs : List (Src α)) (w : World α) (k : Nat → M α β)
    {Q : β → World α → Prop} {E : Exc → World α → Prop}
    (hv : VecOK cfg w c) (hl : Ledger w) (hext : Foreign cfg w c srcs) (hge : srcs.length ≤ ncap)
    (hk : ∀ w3, BuiltA cfg w w3 c ncap a → (∀ i (h : i < srcs.length), (w3.mem w.next)[i]? = some (.obj (srcVal w srcs[i]))) →
      (∀ i, srcs.length ≤ i → i < ncap → IsRaw w3 w.next i) → (k w.next w3).sat Q E)
    (hE : ∀ e w', e ≠ .length → Strong w w' → E e w') :
    ((allocate cfg a ncap >>= fun nb =>
      tryCatch (uninitGen cfg nb 0 0 srcs) (fun ex => deallocate a nb ncap >>= fun _ => throwE ex) >>= fun _ => k nb) w).sat Q E := by
  obtain ⟨hnd, hni⟩ := hv.next_ne hl
  refine sat_bind (allocate_built_sat cfg c ncap a w hv hl) (fun nb w2 ⟨hnb, hb2, hraw2, hoth2⟩ => ?_)
    (fun e w2 h => hE e w2 (by rw [h.1]; intro h'; cases h') (Strong.of_quiet hl h.2))
  subst hnb
  have hag2 : ∀ s ∈ srcs, ∀ b i, s.loc = some (b, i) → (w2.mem b)[i]? = (w.mem b)[i]? := fun s hs b i hl' => by
    rw [hoth2 b (by have := (hext.apart s hs b i hl').2.2; omega)]
  have hfill := uninitGen_nonmoving_sat cfg w.next 0 srcs 0 w2 hext.nonmoving (hext.live_of hag2) (fun j h => by omega)
    (fun k hk => hraw2 _ (by omega))
  refine sat_bind (sat_tryCatch (E := E) hfill ?_) ?_ (fun _ _ h => h)
  · -- an element constructor threw: the new block, all raw again, goes back
    intro e w3 ⟨⟨he, _⟩, hc3, hr3, hrest3⟩
    have hb3 : BuiltA cfg w w3 c ncap a := hb2.step_new hnd hc3 (fun b i hb' => hrest3 b i (fun h => hb' h.1))
    obtain ⟨w6, hd, hs6⟩ := abort_realloc_alloc hv hl hb3
      (fun i _ => by rw [hrest3 _ i (fun h => hnd h.1.symm), hoth2 _ (Ne.symm hnd)])
      (fun i hi => by
        by_cases h : 0 ≤ i ∧ i < 0 + 0 + srcs.length
        · exact hr3 i h.1 h.2
        · exact isRaw_of_eq (hrest3 _ i (fun h' => h h'.2)) (hraw2 i hi))
    rw [bind_run, hd]
    exact hE e w6 (by rw [he]; intro h'; cases h') hs6
  · intro _ w3 ⟨hc3, hv3, hrest3⟩
    refine hk w3 (hb2.step_new hnd hc3 (fun b i hb' => hrest3 b i (fun h => hb' h.1))) (fun i hi => ?_)
      (fun i h1 h2 => isRaw_of_eq (hrest3 _ i (fun h => by omega)) (hraw2 i h2))
    have := hv3 i hi
    simp only [Nat.zero_add] at this
    rw [this, hext.srcVal_of hag2 _ (List.getElem_mem hi)]

theorem assignGen_foreign_sat (cfg : Cfg) (dblk : Nat) (srcs : List (Src α)) (w : World α) {n : Nat} (hnm : NonMoving cfg srcs)
    (hobj : ∀ k, k < srcs.length → IsObj w dblk k) (hlive : ∀ s ∈ srcs, SrcLive w s)
    (hout : ∀ s ∈ srcs, ∀ b i, s.loc = some (b, i) → b ≠ dblk) (hlen : srcs.length = n) :
    (assignGen cfg dblk 0 srcs w).sat
      (fun _ w' => (∀ k (h : k < srcs.length), (w'.mem dblk)[k]? = some (.obj (srcVal w srcs[k]))) ∧
          Touched w w' (fun b i => b = dblk ∧ i < n))
      (fun e w' => e = .elem ∧ Touched w w' (fun b i => b = dblk ∧ i < n)) := by
  have hobj0 : ∀ k, k < srcs.length → IsObj w dblk (0 + k) := fun k hk => by rw [Nat.zero_add]; exact hobj k hk
  have hout0 : ∀ s ∈ srcs, ∀ b i, s.loc = some (b, i) → ¬ (b = dblk ∧ 0 ≤ i ∧ i < 0 + srcs.length) :=
    fun s hs b i hl' h => hout s hs b i hl' h.1
  refine Res.sat_mono (Res.sat_and (assignGen_nonmoving_sat cfg dblk srcs 0 w hnm hobj0 hlive hout0)
    (assignGen_touched_nm cfg dblk srcs 0 w hnm hobj0 hlive hout0)) ?_ ?_
  · intro _ w' ⟨⟨_, hv, _⟩, ht⟩
    exact ⟨fun k hk => by simpa using hv k hk, ht.mono (fun b i h => ⟨h.1, by omega⟩)⟩
  · intro e w' ⟨_, he, ht⟩
    exact ⟨he, ht.mono (fun b i h => ⟨h.1, by omega⟩)⟩

theorem assignWithRangeFwd_foreign_sat (cfg : Cfg) (c : Nat) (srcs : List (Src α)) (w : World α)
    (hv : VecOK cfg w c) (hl : Ledger w) (hext : Foreign cfg w c srcs) :
    (assignWithRangeFwd cfg c srcs w).sat
      (fun _ w' => Assigned cfg w w' c (srcs.map (srcVal w)))
      (fun e w' => InsBasic cfg w w' c ∧ (e = .length → w' = w) ∧ ((w.hdr c).cap < srcs.length → Strong w w')) := by
  unfold assignWithRangeFwd
  rw [assignWithRange_calls.1, assignWithRange_calls.2]
  simp only [calcNewCapacity_checked, allocateBy_unchecked]
  rw [bind_run, getV_run]
  simp only []
  rw [guard_assignWithRange1_0_eq, guard_assignWithRange1_1_eq]
  have hml : (srcs.map (srcVal w)).length = srcs.length := by simp
  have hcls := hv.data_kind hl
  by_cases hgrow : (w.hdr c).cap < srcs.length
  · rw [if_pos (decide_eq_true hgrow)]
    rw [bind_run, checkedCalc_run]
    by_cases hmx : cfg.maxSize < srcs.length
    · rw [if_pos hmx]
      have hs := Strong.refl (w := w) hl
      exact ⟨hs.insBasic hl hv, fun _ => rfl, fun _ => hs⟩
    rw [if_neg hmx]
    simp only []
    generalize hncap : newCapacity cfg.maxSize (w.hdr c).cap srcs.length = ncap
    obtain ⟨hge, hle⟩ : srcs.length ≤ ncap ∧ ncap ≤ cfg.maxSize := by
      rw [← hncap]; exact newCapacity_bounds _ _ _ hgrow (by omega)
    have hN : (w.hdr c).N < ncap := by have := hv.cap_ge; omega
    refine buildCopy_sat cfg c (w.hdr c).alloc ncap srcs w _ hv hl hext hge (fun w3 hb3 hnew3 hraw3 => ?_)
      (fun e w' hne h => ⟨h.insBasic hl hv, fun he => absurd he hne, fun _ => h⟩)
    refine Res.sat_mono (finish_realloc (n' := srcs.length) hv hl hb3 hN hle hge (fun i hi => ⟨_, hnew3 i hi⟩) hraw3) ?_
      (fun _ _ h => h.elim)
    intro _ w' ⟨hvec, hled, hframe, hub, hhc, hmemn, hnext⟩
    exact ⟨⟨hvec, hled, hub, hframe⟩, holds_map_of_slots (by rw [hhc]) (by rw [hhc]) (fun i hi => by rw [hmemn]; exact hnew3 i hi),
           by rw [hhc], fun h => by rw [hml] at h; omega, fun _ => ⟨by rw [hhc], by rw [hhc, hml]; exact hncap.symm⟩⟩
  rw [if_neg (by simpa using hgrow)]
  have hfits : srcs.length ≤ (w.hdr c).cap := by omega
  generalize hn : (w.hdr c).size = n at *
  generalize hdd : (w.hdr c).data = d at *
  have hnotd : ∀ s ∈ srcs, ∀ b i, s.loc = some (b, i) → b ≠ d := fun s hs b i hl' => by
    have := (hext.apart s hs b i hl').1; rw [hdd] at this; exact this
  by_cases hmore : n < srcs.length
  · rw [if_pos (decide_eq_true hmore)]
    have htl : (srcs.take n).length = n := by simp; omega
    have hext1 : Foreign cfg w c (srcs.take n) := hext.sub (fun s hs => List.mem_of_mem_take hs)
    have hext2 : Foreign cfg w c (srcs.drop n) := hext.sub (fun s hs => List.mem_of_mem_drop hs)
    have hasg := assignGen_foreign_sat cfg d (srcs.take n) w hext1.nonmoving
      (fun k hk => by rw [← hdd]; exact hv.objs k (by rw [htl] at hk; omega)) hext1.live
      (fun s hs => hnotd s (List.mem_of_mem_take hs)) htl
    refine sat_bind hasg (fun _ w1 ⟨hv1, ht1⟩ => ?_) ?_
    · -- the rest of the range is appended to the (valid) container `w1`
      have hb1 : Basic cfg w w1 c := basic_of_touched cfg hv hl ht1 (fun b i ⟨a1, a3⟩ => ⟨by rw [hdd]; exact a1, by omega⟩)
      have hh1 : w1.hdr = w.hdr := ht1.ctl.hdr
      have hag1 : ∀ s ∈ srcs.drop n, ∀ b i, s.loc = some (b, i) → (w1.mem b)[i]? = (w.mem b)[i]? := fun s hs b i hl' =>
        ht1.same b i (fun h => hnotd s (List.mem_of_mem_drop hs) b i hl' h.1)
      have hdl : n + (srcs.drop n).length = srcs.length := by rw [List.length_drop]; omega
      have hfit : (w1.hdr c).size + (srcs.drop n).length ≤ (w1.hdr c).cap := by rw [hh1, hn, hdl]; exact hfits
      have happ := appendInPlace_core cfg c (srcs.drop n) w1 hb1.vec hb1.led hfit
        ⟨hext2.nonmoving, hext2.live_of hag1, fun s hs b i hl' => by rw [ht1.ctl.next]; exact (hext2.apart s hs b i hl').2.2⟩
      rw [hh1, hdd, hn, hdl] at happ
      refine Res.sat_mono happ (fun _ w2 ha => ?_) (fun e w2 ⟨he, hs⟩ => ?_)
      · have hx1 : Holds w1 c ((srcs.take n).map (srcVal w)) :=
          ⟨by rw [List.length_map, htl, hh1, hn], fun i hi => by
            have hi' : i < (srcs.take n).length := by rw [List.length_map] at hi; exact hi
            rw [hh1, hdd, hv1 i hi', List.getElem_map]⟩
        have hy := ha.holds _ hx1
        rw [List.map_congr_left (fun s hs => srcVal_congr w w1 s (hag1 s hs)), ← List.map_append, List.take_append_drop] at hy
        obtain ⟨h1, h2, h3, h4, _⟩ := ha.inplace (by rw [List.length_map]; exact hfit)
        exact ⟨Basic.trans hl hv hb1 ha.basic, hy, by rw [ha.alloc, hh1],
               fun _ => ⟨by rw [h1, hh1], by rw [h2, hh1], by rw [h4, ht1.ctl.live], by rw [h3, ht1.ctl.next]⟩,
               fun h => by rw [hml] at h; omega⟩
      · exact ⟨⟨Basic.trans hl hv hb1 (hs.basic hb1.led hb1.vec), by rw [hs.hdr, hh1], by rw [hs.hdr, hh1], by rw [hs.live, ht1.ctl.live]⟩,
               (fun h => by rw [he] at h; cases h), (fun h => by omega)⟩
    · intro e w1 ⟨he, ht1⟩
      have hb1 : Basic cfg w w1 c := basic_of_touched cfg hv hl ht1 (fun b i ⟨a1, a3⟩ => ⟨by rw [hdd]; exact a1, by omega⟩)
      exact ⟨⟨hb1, by rw [ht1.ctl.hdr], by rw [ht1.ctl.hdr], ht1.ctl.live⟩, (fun h => by rw [he] at h; cases h), (fun h => by omega)⟩
  · rw [if_neg (by simpa using hmore)]
    have hasg := assignGen_foreign_sat cfg d srcs w hext.nonmoving (fun k hk => by rw [← hdd]; exact hv.objs k (by omega))
      hext.live hnotd rfl
    have hP : ∀ b i, (b = d ∧ i < srcs.length) → b = (w.hdr c).data ∧ i < (w.hdr c).size :=
      fun b i ⟨a1, a3⟩ => ⟨by rw [hdd]; exact a1, by omega⟩
    refine sat_bind hasg (fun _ w1 ⟨hv1, ht1⟩ => ?_) ?_
    · have hb1 : Basic cfg w w1 c := basic_of_touched cfg hv hl ht1 hP
      have hh1 : w1.hdr = w.hdr := ht1.ctl.hdr
      have her := eraseRange_end_sat cfg c srcs.length w1 hb1.vec hb1.led (by rw [hh1]; omega)
      rw [hh1, hn] at her
      refine sat_bind her (fun _ w2 her => ?_) (fun _ _ h => h.elim)
      show Assigned cfg w w2 c _
      obtain ⟨ys, hys⟩ := hb1.vec.holds_exists
      have hy2 := her.holds ys hys
      have heq := Holds.take_eq hys (zs := srcs.map (srcVal w)) (by rw [hml, hys.1, hh1]; omega) (fun i hi => by
        have hi' : i < srcs.length := by rw [hml] at hi; exact hi
        rw [hh1, hdd, hv1 i hi', List.getElem?_eq_getElem hi, List.getElem_map]; rfl)
      rw [hml] at heq
      rw [heq] at hy2
      refine ⟨Basic.trans hl hv hb1 her.basic, hy2, by rw [her.alloc, hh1],
              fun _ => ⟨by rw [her.data, hh1], by rw [her.cap, hh1], by rw [her.noalloc.2, ht1.ctl.live], by rw [her.noalloc.1, ht1.ctl.next]⟩,
              fun h => by rw [hml] at h; omega⟩
    · intro e w1 ⟨he, ht1⟩
      have hb1 : Basic cfg w w1 c := basic_of_touched cfg hv hl ht1 hP
      exact ⟨⟨hb1, by rw [ht1.ctl.hdr], by rw [ht1.ctl.hdr], ht1.ctl.live⟩, (fun h => by rw [he] at h; cases h), (fun h => by omega)⟩

theorem assignWithRangeFwd_sat (cfg : Cfg) (c : Nat) (srcs : List (Src α)) (w : World α)
    (hv : VecOK cfg w c) (hl : Ledger w) (hext : External srcs) :
    (assignWithRangeFwd cfg c srcs w).sat
      (fun _ w' => Assigned cfg w w' c (srcs.map (srcVal w)))
      (fun e w' => InsBasic cfg w w' c ∧ (e = .length → w' = w) ∧ ((w.hdr c).cap < srcs.length → Strong w w')) :=
  assignWithRangeFwd_foreign_sat cfg c srcs w hv hl (hext.foreign w c)

/-- assign (n, x) is assign over the range of n copies of x: the two member functions have the same body -/
theorem assignWithCopies_eq (cfg : Cfg) (c count : Nat) (s : Src α) (w : World α) :
    assignWithCopies cfg c count s w = assignWithRangeFwd cfg c (List.replicate count s) w := by
  unfold assignWithCopies assignWithRangeFwd
  rw [assignWithRange_calls.1, assignWithRange_calls.2, assignWithCopies_calls.1, assignWithCopies_calls.2]
  simp only [calcNewCapacity_checked, allocateBy_unchecked]
  rw [bind_run, bind_run, getV_run]
  simp only [List.length_replicate]
  rw [guard_assignWithCopies_0_eq, guard_assignWithCopies_1_eq, guard_assignWithRange1_0_eq, guard_assignWithRange1_1_eq]
  -- the two bodies differ only in how the grow branch spells its two ranges
  by_cases h : (w.hdr c).size < count
  · rw [List.take_replicate, List.drop_replicate, Nat.min_eq_left (Nat.le_of_lt h)]
  · simp only [h, decide_false, Bool.false_eq_true, if_false]

theorem assignWithCopies_sat (cfg : Cfg) (c count : Nat) (a : α) (w : World α)
    (hv : VecOK cfg w c) (hl : Ledger w) :
    (assignWithCopies cfg c count (.ext a) w).sat
      (fun _ w' => Assigned cfg w w' c (List.replicate count (.val a)))
      (fun e w' => InsBasic cfg w w' c ∧ (e = .length → w' = w) ∧ ((w.hdr c).cap < count → Strong w w')) := by
  rw [assignWithCopies_eq]
  have hext : External (List.replicate count (Src.ext a)) := fun s hs => by
    rw [List.eq_of_mem_replicate hs]; rfl
  have := assignWithRangeFwd_sat cfg c (List.replicate count (.ext a)) w hv hl hext
  simp only [List.map_replicate, List.length_replicate] at this
  exact this

end SvModel
