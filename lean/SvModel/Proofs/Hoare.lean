/-
Hoare layer: results are inspected through `Res.sat r Q E` (normal and exceptional post-condition); composition rules
for bind / tryCatch / finally_, each by `cases` on the first computation; run equations of bind; `NoThrow m` (every run
of `m` returns) with its closure under the combinators.
-/
import SvModel.Basic

namespace SvModel
variable {α β γ δ : Type}

def Res.sat (r : Res (World α) β) (Q : β → World α → Prop) (E : Exc → World α → Prop) : Prop :=
  match r with
  | .ok b w => Q b w
  | .thrown e w => E e w

@[simp] theorem Res.sat_ok (b : β) (w : World α) (Q : β → World α → Prop) (E : Exc → World α → Prop) :
    (Res.ok b w : Res (World α) β).sat Q E = Q b w := rfl
@[simp] theorem Res.sat_thrown (e : Exc) (w : World α) (Q : β → World α → Prop) (E : Exc → World α → Prop) :
    (Res.thrown e w : Res (World α) β).sat Q E = E e w := rfl

theorem Res.sat_mono {r : Res (World α) β} {Q Q' : β → World α → Prop} {E E' : Exc → World α → Prop}
    (h : r.sat Q E) (hq : ∀ b w, Q b w → Q' b w) (he : ∀ e w, E e w → E' e w) : r.sat Q' E' := by
  cases r with
  | ok b w => exact hq b w h
  | thrown e w => exact he e w h

theorem sat_bind {m : M α β} {f : β → M α γ} {w : World α}
    {Q : β → World α → Prop} {E1 : Exc → World α → Prop}
    {R : γ → World α → Prop} {E : Exc → World α → Prop}
    (h1 : (m w).sat Q E1)
    (h2 : ∀ b w', Q b w' → (f b w').sat R E)
    (h3 : ∀ e w', E1 e w' → E e w') :
    ((m >>= f) w).sat R E := by
  rw [bind_run]
  cases hm : m w with
  | ok b w' => rw [hm] at h1; exact h2 b w' h1
  | thrown e w' => rw [hm] at h1; exact h3 e w' h1

theorem sat_tryCatch {m : M α β} {h : Exc → M α β} {w : World α}
    {Q : β → World α → Prop} {E1 E : Exc → World α → Prop}
    (h1 : (m w).sat Q E1)
    (h2 : ∀ e w', E1 e w' → (h e w').sat Q E) :
    (tryCatch m h w).sat Q E := by
  rw [tryCatch_run]
  cases hm : m w with
  | ok b w' => rw [hm] at h1; exact h1
  | thrown e w' => rw [hm] at h1; exact h2 e w' h1

theorem finally_run (m : M α β) (fin : M α Unit) (w : World α) :
    finally_ m fin w = match m w with
      | .ok b w' => (match fin w' with | .ok _ w'' => .ok b w'' | .thrown e w'' => .thrown e w'')
      | .thrown e w' => (match fin w' with | .ok _ w'' => .thrown e w'' | .thrown e' w'' => .thrown e' w'') := rfl

/-- RAII: `fin` never throws (a destructor); it runs on both exits -/
theorem sat_finally {m : M α β} {fin : M α Unit} {w : World α}
    {Q1 : β → World α → Prop} {E1 : Exc → World α → Prop}
    {Q : β → World α → Prop} {E : Exc → World α → Prop}
    (h1 : (m w).sat Q1 E1)
    (h2 : ∀ b w', Q1 b w' → (fin w').sat (fun _ w'' => Q b w'') (fun _ _ => False))
    (h3 : ∀ e w', E1 e w' → (fin w').sat (fun _ w'' => E e w'') (fun _ _ => False)) :
    (finally_ m fin w).sat Q E := by
  rw [finally_run]
  cases hm : m w with
  | ok b w' =>
    rw [hm] at h1
    have := h2 b w' h1
    simp only []
    cases hf : fin w' with
    | ok u w'' => rw [hf] at this; exact this
    | thrown e w'' => rw [hf] at this; exact this.elim
  | thrown e w' =>
    rw [hm] at h1
    have := h3 e w' h1
    simp only []
    cases hf : fin w' with
    | ok u w'' => rw [hf] at this; exact this
    | thrown e' w'' => rw [hf] at this; exact this.elim

theorem sat_pure {b : β} {w : World α} {Q : β → World α → Prop} {E : Exc → World α → Prop} (h : Q b w) :
    ((pure b : M α β) w).sat Q E := h

theorem sat_throwE {e : Exc} {w : World α} {Q : β → World α → Prop} {E : Exc → World α → Prop} (h : E e w) :
    ((throwE e : M α β) w).sat Q E := h

theorem sat_of_ok {m : M α β} {w w' : World α} {b : β} {Q : β → World α → Prop} {E : Exc → World α → Prop}
    (h : (m w).sat Q E) (hr : m w = .ok b w') : Q b w' := by rw [hr] at h; exact h
theorem sat_of_thrown {m : M α β} {w w' : World α} {e : Exc} {Q : β → World α → Prop} {E : Exc → World α → Prop}
    (h : (m w).sat Q E) (hr : m w = .thrown e w') : E e w' := by rw [hr] at h; exact h

theorem bind_assoc_run (m : M α β) (g : β → M α γ) (f : γ → M α δ) (w : World α) :
    ((m >>= g) >>= f) w = (m >>= fun b => g b >>= f) w := by
  rw [bind_run, bind_run, bind_run]
  cases m w <;> rfl
theorem M_bind_assoc {β γ δ : Type} (m : M α β) (g : β → M α γ) (f : γ → M α δ) : (m >>= g) >>= f = m >>= fun b => g b >>= f :=
  funext (bind_assoc_run m g f)
theorem pure_bind_run (b : β) (f : β → M α γ) (w : World α) : ((pure b : M α β) >>= f) w = f b w := rfl
theorem bind_congr_run {m m' : M α β} {w : World α} (h : m w = m' w) (k : β → M α γ) : (m >>= k) w = (m' >>= k) w := by
  rw [bind_run, bind_run, h]

/-- two programs with the same first step are equal when their continuations agree on its normal outcomes -/
theorem bind_congr_ok {β γ : Type} {m : M α β} {k k' : β → M α γ} {w : World α}
    (h : ∀ b w1, m w = .ok b w1 → k b w1 = k' b w1) : (m >>= k) w = (m >>= k') w := by
  rw [bind_run, bind_run]
  cases hm : m w with
  | ok b w1 => exact h b w1 hm
  | thrown e w1 => rfl

theorem sat_bind₂ {m : M α β} {g : β → M α γ} {f : γ → M α δ} {w : World α}
    {Q : γ → World α → Prop} {E1 : Exc → World α → Prop} {R : δ → World α → Prop} {E : Exc → World α → Prop}
    (h1 : ((m >>= g) w).sat Q E1) (h2 : ∀ b w', Q b w' → (f b w').sat R E) (h3 : ∀ e w', E1 e w' → E e w') :
    ((m >>= fun b => g b >>= f) w).sat R E := by
  rw [← bind_assoc_run]; exact sat_bind h1 h2 h3

theorem Res.sat_and {r : Res (World α) β} {Q1 Q2 : β → World α → Prop} {E1 E2 : Exc → World α → Prop}
    (h1 : r.sat Q1 E1) (h2 : r.sat Q2 E2) : r.sat (fun b w => Q1 b w ∧ Q2 b w) (fun e w => E1 e w ∧ E2 e w) := by
  cases r with
  | ok b w => exact ⟨h1, h2⟩
  | thrown e w => exact ⟨h1, h2⟩

/-- a computation that cannot throw returns -/
theorem Res.ok_of_sat {β : Type} {r : Res (World α) β} {Q : β → World α → Prop} (h : r.sat Q (fun _ _ => False)) :
    ∃ b w', r = .ok b w' ∧ Q b w' := by
  cases r with
  | ok b w' => exact ⟨b, w', rfl, h⟩
  | thrown e w' => exact h.elim

def NoThrow (m : M α β) : Prop := ∀ w, ∃ b w', m w = .ok b w'

theorem NoThrow.pure (b : β) : NoThrow (pure b : M α β) := fun w => ⟨b, w, rfl⟩

theorem NoThrow.bind {m : M α β} {f : β → M α γ} (h1 : NoThrow m) (h2 : ∀ b, NoThrow (f b)) : NoThrow (m >>= f) := by
  intro w
  obtain ⟨b, w1, e1⟩ := h1 w
  obtain ⟨r, w2, e2⟩ := h2 b w1
  exact ⟨r, w2, by rw [bind_run, e1]; exact e2⟩

theorem NoThrow.ite {c : Prop} [Decidable c] {m n : M α β} (h1 : NoThrow m) (h2 : NoThrow n) : NoThrow (if c then m else n) := by
  split <;> assumption

theorem NoThrow.tryCatch {m : M α β} (h : Exc → M α β) (h1 : NoThrow m) : NoThrow (SvModel.tryCatch m h) := by
  intro w
  obtain ⟨b, w1, e1⟩ := h1 w
  exact ⟨b, w1, by rw [tryCatch_run, e1]⟩

theorem NoThrow.finally {m : M α β} {fin : M α Unit} (h1 : NoThrow m) (h2 : NoThrow fin) : NoThrow (finally_ m fin) := by
  intro w
  obtain ⟨b, w1, e1⟩ := h1 w
  obtain ⟨u, w2, e2⟩ := h2 w1
  exact ⟨b, w2, by rw [finally_run, e1]; simp only []; rw [e2]⟩

end SvModel
