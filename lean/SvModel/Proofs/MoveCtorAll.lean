/-
Move construction, every case, inside a system of containers: the three ways `move_initialize` can go
(steal the buffer; relocate element by element; both inline capacities 0 and an empty, unallocated source) combined into
one statement about `ctorMove`.
-/
import SvModel.Proofs.MoveCtorSys
import SvModel.Proofs.Assign
import SvModel.Properties.C09Sys

namespace SvModel
open Gen
variable {α : Type}

/-- the case analysis behind `move_initialize` -/
theorem steal_trichotomy (v ov : Vec) (hcap : ov.N ≤ ov.cap) :
    C09.StealAllowed v ov ∨ NoSteal v ov ∨ (v.N = 0 ∧ ov.N = 0 ∧ ov.cap = 0) := by
  unfold C09.StealAllowed NoSteal
  by_cases h0 : v.N = 0 ∧ ov.N = 0
  · by_cases hc : ov.cap = 0
    · exact Or.inr (Or.inr ⟨h0.1, h0.2, hc⟩)
    · left; omega
  · by_cases h1 : ov.N ≤ v.N
    · by_cases h2 : v.N < ov.cap
      · left; omega
      · right; left; exact ⟨h0, fun _ => h2, fun h => by omega⟩
    · by_cases h2 : ov.N < ov.cap
      · left; omega
      · right; left; exact ⟨h0, fun h => absurd h h1, fun _ => h2⟩

theorem Vec.reset_self {v : Vec} (hN : v.N = 0) (hcap : v.cap = 0) (hsz : v.size = 0) (hd : v.data = v.inl) :
    ({ v with cap := v.N, data := v.inl, size := 0 } : Vec) = v := by
  cases v with
  | mk N inl cap size data alloc =>
    simp only [] at hN hcap hsz hd ⊢
    rw [hcap, hsz, hd, hN]

/-- both inline capacities 0 and `o` empty in the null block: handing `o`'s buffer over to `c` leaves `o` as it is and makes
    `c` an empty container in the null block -/
theorem adoptW_null (w : World α) {c o : Nat} (hne : c ≠ o) (a : Nat) (hcN : (w.hdr c).N = 0) (hoN : (w.hdr o).N = 0)
    (hocap : (w.hdr o).cap = 0) (hosz : (w.hdr o).size = 0) (hod : (w.hdr o).data = (w.hdr o).inl)
    (hnull : (w.hdr c).inl = (w.hdr o).inl) :
    adoptW w c o a = { w with hdr := upd w.hdr c { w.hdr c with alloc := a, cap := (w.hdr c).N, data := (w.hdr c).inl, size := 0 } } := by
  unfold adoptW
  rw [Vec.reset_self hoN hocap hosz hod, upd_comm _ hne, upd_self, hod, ← hnull, hocap, hosz, hcN]

theorem ctorFill_nil_run (cfg : Cfg) (c a : Nat) (w : World α) : ctorFill cfg c a false ([] : List (Src α)) w =
    .ok () { w with hdr := upd w.hdr c { w.hdr c with alloc := a, cap := (w.hdr c).N, data := (w.hdr c).inl, size := 0 } } := by
  unfold ctorFill
  rw [setAlloc, modV_bind, getV_bind, if_neg (by exact Nat.not_lt_zero _)]
  refine Eq.trans (b := Res.ok () { w with hdr := _ }) rfl ?_
  simp only [upd_same, upd_upd, List.length_nil]

/-- both inline capacities 0, source empty and unallocated: the "steal" of the null buffer is the construction of an
    empty container -/
theorem ctorMove_null_eq_fill (cfg : Cfg) (c o : Nat) (hne : c ≠ o) (w : World α)
    (hcN : (w.hdr c).N = 0) (hoN : (w.hdr o).N = 0) (hocap : (w.hdr o).cap = 0) (hosz : (w.hdr o).size = 0)
    (hod : (w.hdr o).data = (w.hdr o).inl) (hnull : (w.hdr c).inl = (w.hdr o).inl) :
    ctorMove cfg c o w = ctorFill cfg c (w.hdr o).alloc false ([] : List (Src α)) w := by
  have hne' : o ≠ c := fun h => hne h.symm
  rw [ctorFill_nil_run]
  unfold ctorMove
  rw [getV_bind, setAlloc, modV_bind]
  unfold moveInitialize
  rw [getV_bind, getV_bind, if_pos ⟨by show (upd w.hdr c _ c).N = 0; rw [upd_same]; exact hcN,
    by show (upd w.hdr c _ o).N = 0; rw [upd_other _ _ _ _ hne']; exact hoN⟩]
  -- the two setters as one header map, then: `o`'s header is what it was, `c`'s is the empty inline one
  refine Eq.trans (b := Res.ok () { w with hdr := _ }) rfl ?_
  simp only [upd_same, upd_other _ _ _ _ hne', upd_upd]
  exact congrArg (Res.ok ()) (adoptW_null w hne _ hcN hoN hocap hosz hod hnull)

/-- `hnull`: containers of inline capacity 0 have the same in-object buffer, the null block (block 4, see Basic.lean) -/
theorem SysAll.ctorMove {cfg : Cfg} {w : World α} {U A : List Nat} {c o : Nat} (hs : SysAll cfg w U A)
    (hcU : c ∈ U) (hcA : c ∉ A) (ho : o ∈ A)
    (hnull : (w.hdr c).N = 0 → (w.hdr o).N = 0 → (w.hdr c).inl = (w.hdr o).inl) :
    (SvModel.ctorMove cfg c o w).sat
      (fun _ w' => SysAll cfg w' U (c :: A) ∧ (∀ xs, Holds w o xs → Holds w' c xs) ∧ (∃ ys, Holds w' o ys) ∧
                   ∀ d ∈ A, d ≠ o → ∀ xs, Holds w d xs → Holds w' d xs)
      (fun _ w' => SysAll cfg w' U A ∧ w'.live = w.live ∧ (∃ ys, Holds w' o ys) ∧
                   ∀ d ∈ A, d ≠ o → ∀ xs, Holds w d xs → Holds w' d xs) := by
  have hne : c ≠ o := fun e => hcA (e ▸ ho)
  have hvo := hs.ok.vec o ho
  rcases steal_trichotomy (w.hdr c) (w.hdr o) hvo.cap_ge with hst | hns | ⟨hcN, hoN, hocap⟩
  · obtain ⟨w', hrun, hs', hco, hoe, _, hhd, hm, _, _⟩ := C09.move_ctor_steals_sys cfg w U A c o hs hcU hcA ho hst
    rw [hrun]
    exact ⟨hs', hco, ⟨[], hoe⟩, fun d hd hdo xs hx => hx.of_mem_eq (hhd d hd hdo) (by rw [hm])⟩
  · refine Res.sat_mono (SysAll.ctorMoveElementwise hs hcU hcA ho hns) ?_ ?_
    · intro _ w' ⟨a, b, _, _, f⟩
      exact ⟨a, b, (a.ok.vec o (List.mem_cons_of_mem _ ho)).holds_exists, fun d hd hdo xs hx => hx.of_mem_eq (f d hd hdo).1 (f d hd hdo).2⟩
    · intro _ w' ⟨a, b, _, f⟩
      exact ⟨a, b, (a.ok.vec o ho).holds_exists, fun d hd hdo xs hx => hx.of_mem_eq (f d hd hdo).1 (f d hd hdo).2⟩
  · have hosz : (w.hdr o).size = 0 := by have := hvo.size_le; omega
    have hod : (w.hdr o).data = (w.hdr o).inl := (hvo.inl_iff).mp (by rw [hocap, hoN])
    rw [ctorMove_null_eq_fill cfg c o hne w hcN hoN hocap hosz hod (hnull hcN hoN)]
    have ho0 : Holds w o [] := Holds.nil hosz
    refine Res.sat_mono (SysAll.ctorEmpty hs hcU hcA (w.hdr o).alloc false) ?_ ?_
    · intro _ w' ⟨a, b, _, f⟩
      refine ⟨a, fun xs hx => ?_, ⟨[], ho0.of_mem_eq (f o ho).1 (f o ho).2⟩,
              fun d hd _ xs hx => hx.of_mem_eq (f d hd).1 (f d hd).2⟩
      rw [hx.eq_nil hosz]; exact b
    · intro _ w' ⟨a, b, f⟩
      exact ⟨a, b, ⟨[], ho0.of_mem_eq (f o ho).1 (f o ho).2⟩,
             fun d hd _ xs hx => hx.of_mem_eq (f d hd).1 (f d hd).2⟩

theorem ctorMoveAlloc_equal_eq (cfg : Cfg) (c o : Nat) (w : World α) (hnd : ¬ ctorMoveAllocDelegates cfg.policy = true) :
    ctorMoveAlloc cfg c o (w.hdr o).alloc w = SvModel.ctorMove cfg c o w := by
  unfold ctorMoveAlloc SvModel.ctorMove
  rw [if_neg hnd, getV_bind, getV_bind, if_pos rfl]

theorem ctorMoveAlloc_unequal_eq_fill (cfg : Cfg) (c o a : Nat) (w : World α) (hnd : ¬ ctorMoveAllocDelegates cfg.policy = true)
    (ha : (w.hdr o).alloc ≠ a) :
    ctorMoveAlloc cfg c o a w = SvModel.ctorFill cfg c a false (srcsMove (w.hdr o).data 0 (w.hdr o).size) w := by
  unfold ctorMoveAlloc SvModel.ctorFill
  rw [if_neg hnd, getV_bind, SvModel.setAlloc, modV_bind, modV_bind, if_neg ha, getV_bind, getV_bind]
  simp only [upd_same, srcsMove_length, uninitializedMove_false, Bool.false_eq_true, if_false]

theorem SysAll.ctorMoveAlloc {cfg : Cfg} {w : World α} {U A : List Nat} {c o : Nat} (hs : SysAll cfg w U A)
    (hcU : c ∈ U) (hcA : c ∉ A) (ho : o ∈ A) (a : Nat)
    (hnull : (w.hdr c).N = 0 → (w.hdr o).N = 0 → (w.hdr c).inl = (w.hdr o).inl) :
    (SvModel.ctorMoveAlloc cfg c o a w).sat
      (fun _ w' => SysAll cfg w' U (c :: A) ∧ (∀ xs, Holds w o xs → Holds w' c xs) ∧ (∃ ys, Holds w' o ys) ∧
                   ∀ d ∈ A, d ≠ o → ∀ xs, Holds w d xs → Holds w' d xs)
      (fun _ w' => SysAll cfg w' U A ∧ w'.live = w.live ∧ (∃ ys, Holds w' o ys) ∧
                   ∀ d ∈ A, d ≠ o → ∀ xs, Holds w d xs → Holds w' d xs) := by
  have hne : c ≠ o := fun e => hcA (e ▸ ho)
  by_cases hdel : ctorMoveAllocDelegates cfg.policy = true
  · have : SvModel.ctorMoveAlloc cfg c o a w = SvModel.ctorMove cfg c o w := by unfold SvModel.ctorMoveAlloc; rw [if_pos hdel]
    rw [this]; exact SysAll.ctorMove hs hcU hcA ho hnull
  · by_cases ha : (w.hdr o).alloc = a
    · rw [← ha, ctorMoveAlloc_equal_eq cfg c o w hdel]; exact SysAll.ctorMove hs hcU hcA ho hnull
    · rw [ctorMoveAlloc_unequal_eq_fill cfg c o a w hdel ha]
      refine Res.sat_mono (SysAll.ctorFillMove hs hcU hcA ho a) ?_ ?_
      · intro _ w' ⟨x1, x2, _, _, x6⟩
        exact ⟨x1, x2, (x1.ok.vec o (List.mem_cons_of_mem _ ho)).holds_exists, fun d hd hdo xs hx => hx.of_mem_eq (x6 d hd hdo).1 (x6 d hd hdo).2⟩
      · intro _ w' ⟨x1, x2, _, x6⟩
        exact ⟨x1, x2, (x1.ok.vec o ho).holds_exists, fun d hd hdo xs hx => hx.of_mem_eq (x6 d hd hdo).1 (x6 d hd hdo).2⟩

end SvModel
