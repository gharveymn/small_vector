/-
Element-wise move assignment, REALLOCATING paths (`move_assign_default` when the source's elements do not fit or the
destination's block belongs to an unequal allocator; `move_assign_unequal_no_propagate` when they do not fit):
allocate a new block (with allocator `A`), move-construct the source's elements into it (rolling back on a throw), wipe
the destination, switch it to the new block and give it allocator `A`.

As for the in-place paths the outcome is factorised through an intermediate world in which only the source's block has
changed (`husked`), so that two applications of `SysOK.step` give the system invariant.
-/
import SvModel.Proofs.MoveAssign

namespace SvModel
open Gen
variable {α : Type}

theorem moveAssignRealloc_sat (cfg : Cfg) (c o : Nat) (w : World α) (A ncap : Nat)
    (hv : VecOK cfg w c) (hl : Ledger w) (hvo : VecOK cfg w o)
    (hN : (w.hdr c).N < ncap) (hmax : ncap ≤ cfg.maxSize) (hfit : (w.hdr o).size ≤ ncap)
    (hd : (w.hdr o).data ≠ (w.hdr c).data) (hi : (w.hdr o).data ≠ (w.hdr c).inl) :
    ((allocate cfg A ncap >>= fun nb =>
      tryCatch (uninitializedMove cfg false (w.hdr o).data 0 (w.hdr o).size nb 0)
        (fun ex => deallocate A nb ncap >>= fun _ => throwE ex) >>= fun _ =>
      resetData cfg c nb ncap (w.hdr o).size >>= fun _ => setAlloc c A) w).sat
      (fun _ w' => ∃ wh, Basic cfg w wh o ∧ Basic cfg wh w' c ∧
          w'.hdr c = { w.hdr c with data := w.next, cap := ncap, size := (w.hdr o).size, alloc := A } ∧
          (∀ k, k < (w.hdr o).size → (w'.mem w.next)[k]? = (w.mem (w.hdr o).data)[k]?))
      (fun e w' => (e = .alloc ∧ Quiet w w') ∨ (e = .elem ∧ ∃ wh, Basic cfg w wh o ∧ Strong wh w')) := by
  obtain ⟨hnd, hni⟩ := hv.next_ne hl
  have hon : (w.hdr o).data ≠ w.next := Nat.ne_of_lt (hvo.data_lt_next hl)
  refine sat_bind (allocate_sat cfg A ncap w) (fun nb w2 h2 => ?_) (fun e w2 h => Or.inl h)
  obtain ⟨hnb, hm2, ho2, hlv2, hn2, hh2, ht2, hu2⟩ := h2
  subst hnb
  obtain ⟨hb2, hraw2, hoth2⟩ := BuiltA.of_alloc (c := c) A hv hl hm2 ho2 hlv2 hn2 hh2 ht2 hu2
  have hmv := uninitializedMove_sat cfg false (w.hdr o).data 0 (w.hdr o).size w.next 0 w2
    (fun k hk => by unfold IsObj; rw [hoth2 _ hon, Nat.zero_add]; exact hvo.objs k hk)
    (fun k hk => hraw2 _ (by omega))
  -- the intermediate world; the same in both outcomes of the relocation
  have husk : ∀ {w3 : World α}, Ctl w2 w3 → (∀ k, k < (w.hdr o).size → IsObj w3 (w.hdr o).data (0 + k)) →
      (∀ (b i : Nat), ¬ (b = w.next ∧ 0 ≤ i ∧ i < 0 + (w.hdr o).size) → ¬ (b = (w.hdr o).data ∧ 0 ≤ i ∧ i < 0 + (w.hdr o).size) →
        (w3.mem b)[i]? = (w2.mem b)[i]?) →
      (Basic cfg w (husked w w3 (w.hdr o).data) o ∧ VecOK cfg (husked w w3 (w.hdr o).data) c ∧
        BuiltA cfg (husked w w3 (w.hdr o).data) w3 c ncap A) ∧
      (∀ i, (w.hdr o).size ≤ i → (w3.mem w.next)[i]? = (w2.mem w.next)[i]?) ∧
      (∀ i : Nat, (w3.mem (w.hdr c).data)[i]? = (w.mem (w.hdr c).data)[i]?) := by
    intro w3 hc3 hsrc3 hrest3
    rw [Nat.zero_add] at hrest3
    simp only [Nat.zero_add] at hsrc3
    obtain ⟨_, rn, _, ro, rb⟩ := rest_split hrest3 hon
    have hcd : ∀ i : Nat, (w3.mem (w.hdr c).data)[i]? = (w.mem (w.hdr c).data)[i]? :=
      fun i => by rw [rb _ i (Ne.symm hnd) (Ne.symm hd), hoth2 _ (Ne.symm hnd)]
    refine ⟨husked_built cfg hv hl hvo hd hi hb2 hc3 hsrc3 (fun i hi' => isObj_of_eq (hcd i) (hv.objs i hi'))
      (fun b i hb ho _ => ?_), rn, hcd⟩
    rw [← hoth2 b hb]
    by_cases hbo : b = (w.hdr o).data
    · rw [hbo]; exact ro i (Nat.le_of_not_lt (fun h => ho ⟨hbo, h⟩))
    · exact rb b i hb hbo
  refine sat_bind (sat_tryCatch (Q := fun _ w3 => Relocated cfg false w2 w3 (w.hdr o).data 0 (w.hdr o).size w.next 0) hmv ?_) ?_
    (fun _ _ h => h)
  ·
    intro e w3 ⟨he, hf⟩
    obtain ⟨⟨hb1, hvh, hbA⟩, rn, hcd⟩ := husk hf.ctl hf.src hf.rest
    obtain ⟨w6, hd6, hs6⟩ := abort_realloc_alloc (w := husked w w3 (w.hdr o).data) hvh hb1.led hbA
      (fun i _ => by
        show (w3.mem (w.hdr c).data)[i]? = ((husked w w3 (w.hdr o).data).mem (w.hdr c).data)[i]?
        rw [husked_mem_other _ _ _ _ (Ne.symm hd)]; exact hcd i)
      (fun i hi' => by
        show IsRaw w3 w.next i
        by_cases h : i < (w.hdr o).size
        · have := hf.dst i h; rwa [Nat.zero_add] at this
        · exact isRaw_of_eq (rn i (Nat.le_of_not_lt h)) (hraw2 i hi'))
    rw [bind_run, show deallocate A w.next ncap w3 = .ok () w6 from hd6]
    exact Or.inr ⟨he, _, hb1, hs6⟩
  · intro _ w3 hr
    obtain ⟨⟨hb1, hvh, hbA⟩, rn, _⟩ := husk hr.ctl hr.src hr.rest
    have hval3 : ∀ k, k < (w.hdr o).size → (w3.mem w.next)[k]? = (w.mem (w.hdr o).data)[k]? := fun k hk => by
      have := hr.dst k hk
      rwa [Nat.zero_add, hoth2 _ hon] at this
    refine Res.sat_mono (finish_realloc_alloc (w := husked w w3 (w.hdr o).data) (n' := (w.hdr o).size) hvh hb1.led hbA hN hmax hfit
      (fun i hi' => isObj_of_eq (hval3 i hi') (hvo.objs i hi'))
      (fun i h1 h2 => isRaw_of_eq (rn i h1) (hraw2 i h2))) ?_ (fun _ _ h => h.elim)
    intro _ w' ⟨hvec, hled, hframe, hub, hhc, hmemn, hnext⟩
    refine ⟨_, hb1, ⟨hvec, hled, hub, hframe⟩, hhc, fun k hk => ?_⟩
    rw [show w'.mem w.next = w3.mem w.next from hmemn]; exact hval3 k hk

end SvModel
