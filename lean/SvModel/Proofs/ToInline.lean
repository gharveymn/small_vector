/-
Kernel lemma for the "heap → in-object buffer" transition (shrink_to_fit of few elements, move assignment of a short
source into a heap-allocated destination): the old heap block was released, the in-object buffer holds the new
contents, every other block is untouched.
-/
import SvModel.Proofs.Kernel

namespace SvModel
open Gen
variable {α : Type}

theorem toinline_ok (cfg : Cfg) {w w' : World α} {c n' : Nat} (a' : Nat) (hv : VecOK cfg w c) (hl : Ledger w)
    (hheap : (w.hdr c).N < (w.hdr c).cap) (hn : n' ≤ (w.hdr c).N)
    (hh : w'.hdr = upd w.hdr c { w.hdr c with data := (w.hdr c).inl, cap := (w.hdr c).N, size := n', alloc := a' })
    (hnext : w'.next = w.next) (hntmp : w'.ntmp = w.ntmp)
    (hlive : w'.live = w.live.erase (w.hdr c).data) (howner : w'.owner = w.owner)
    (hlen : ∀ b, b ≠ (w.hdr c).data → (w'.mem b).length = (w.mem b).length)
    (hobj : ∀ i, i < n' → IsObj w' (w.hdr c).inl i)
    (hraw : ∀ i, n' ≤ i → i < (w.hdr c).N → IsRaw w' (w.hdr c).inl i)
    (hold : w'.mem (w.hdr c).data = [])
    (hother : ∀ b, b ≠ (w.hdr c).data → b ≠ (w.hdr c).inl → w'.mem b = w.mem b) :
    VecOK cfg w' c ∧ Ledger w' ∧ Frame1 w w' c := by
  have hne : (w.hdr c).data ≠ (w.hdr c).inl := hv.heap_iff.mp hheap
  have hhc : w'.hdr c = { w.hdr c with data := (w.hdr c).inl, cap := (w.hdr c).N, size := n', alloc := a' } := by
    rw [hh]; exact upd_same _ _ _
  refine ⟨?_, hl.dealloc (w.hdr c).data hnext hntmp hlive hold (fun b hbd _ => hlen b hbd), ?_⟩
  · refine ⟨?size_le, ?cap_ge, ?cap_max, ?inl_iff, ?inl_lt, ?len, ?objs, ?raws, ?heap, ?idle⟩ <;> rw [hhc]
    case size_le => exact hn
    case cap_ge => exact Nat.le_refl _
    case cap_max => exact Nat.le_max_right _ _
    case inl_iff => exact ⟨fun _ => rfl, fun _ => rfl⟩
    case inl_lt => exact hv.inl_lt
    case len => exact (hlen _ (Ne.symm hne)).trans (hv.idle hne).1
    case objs => exact hobj
    case raws => exact hraw
    case heap => exact fun h => absurd rfl h
    case idle => exact fun h => absurd rfl h
  · refine ⟨fun d hd => by rw [hh, upd_other _ _ _ _ hd], by rw [hhc], by rw [hhc], fun b h1 h2 _ _ => hother b h1 h2,
            fun b _ => by rw [howner], by rw [hnext]; exact Nat.le_refl _, Or.inr (Or.inl (by rw [hhc])), ?_, ?_⟩
    -- live-block accounting: exactly the old heap buffer was released
    · intro b _
      rw [hlive, hl.nodup.mem_erase_iff, hhc]
      show _ ↔ b ∈ w.live ∧ (b = (w.hdr c).data → (w.hdr c).inl = b)
      exact ⟨fun h => ⟨h.2, fun h3 => absurd h3 h.1⟩, fun h => ⟨fun h3 => hne (h3 ▸ (h.2 h3).symm), h.1⟩⟩
    · intro b hb
      rw [hlive, hhc]
      show _ ↔ b = (w.hdr c).inl
      constructor
      · intro h; exact absurd (hl.live_ok b (List.mem_of_mem_erase h)).2.2 (Nat.not_lt.mpr hb)
      · intro h; have := hl.next_ok; have := hv.inl_lt; omega

/-- the common tail of every "heap → in-object buffer" assignment: the new contents are already in the in-object buffer
    (world `w1`, which differs from the base world `wb` only there); destroy the old elements, release the old block,
    switch the header -/
theorem toInline_tail (cfg : Cfg) (c : Nat) (wb w1 : World α) (n' a' : Nat) (hvb : VecOK cfg wb c) (hlb : Ledger wb)
    (hheap : (wb.hdr c).N < (wb.hdr c).cap) (hn : n' ≤ (wb.hdr c).N) (hc1 : Ctl wb w1)
    (hcd1 : ∀ i : Nat, (w1.mem (wb.hdr c).data)[i]? = (wb.mem (wb.hdr c).data)[i]?)
    (hobj1 : ∀ i, i < n' → IsObj w1 (wb.hdr c).inl i) (hraw1 : ∀ i, n' ≤ i → i < (wb.hdr c).N → IsRaw w1 (wb.hdr c).inl i)
    (hoth1 : ∀ (b i : Nat), b ≠ (wb.hdr c).data → b ≠ (wb.hdr c).inl → (w1.mem b)[i]? = (wb.mem b)[i]?) :
    ((destroyRange cfg (wb.hdr c).data 0 (wb.hdr c).size >>= fun _ =>
      deallocate (wb.hdr c).alloc (wb.hdr c).data (wb.hdr c).cap >>= fun _ =>
      setDataPtr c (wb.hdr c).inl >>= fun _ => setCapacity c (wb.hdr c).N >>= fun _ =>
      setSize c n' >>= fun _ => setAlloc c a') w1).sat
      (fun _ w' => Basic cfg wb w' c ∧
          w'.hdr c = { wb.hdr c with data := (wb.hdr c).inl, cap := (wb.hdr c).N, size := n', alloc := a' } ∧
          ∀ i : Nat, (w'.mem (wb.hdr c).inl)[i]? = (w1.mem (wb.hdr c).inl)[i]?)
      (fun _ _ => False) := by
  have hne : (wb.hdr c).data ≠ (wb.hdr c).inl := (hvb.heap_iff).mp hheap
  obtain ⟨hlive, hown⟩ := hvb.heap hne
  refine sat_bind (destroyRange_sat cfg (wb.hdr c).data (wb.hdr c).size 0 w1
    (fun i _ y => isObj_of_eq (hcd1 i) (hvb.objs i (by omega)))) (fun _ w2 ⟨hc12, hr2, hrest2⟩ => ?_) (fun _ _ h => h)
  have hc2 : Ctl wb w2 := hc1.trans hc12
  have hraw2 : ∀ i, i < (wb.hdr c).cap → IsRaw w2 (wb.hdr c).data i := by
    intro i hi'
    by_cases h : i < (wb.hdr c).size
    · exact hr2 i (Nat.zero_le _) (by omega)
    · exact isRaw_of_eq ((hrest2 _ i (by intro ⟨_, _, h3⟩; omega)).trans (hcd1 i)) (hvb.raws i (by omega) hi')
  rw [bind_run, deallocate_run _ _ _ w2 (by rw [hc2.live]; exact hlive) (by rw [hc2.len, hvb.len]) hraw2 (by rw [hc2.owner]; exact hown)]
  -- the four header setters, collapsed into one rewrite of `c`'s header
  simp only [setDataPtr, setCapacity, setSize, setAlloc, modV_bind, modV_run, upd_upd, upd_same, hc2.hdr]
  have hinl4 : ∀ i : Nat, (upd w2.mem (wb.hdr c).data [] (wb.hdr c).inl)[i]? = (w1.mem (wb.hdr c).inl)[i]? := by
    intro i; rw [upd_other _ _ _ _ (Ne.symm hne)]
    exact hrest2 _ i (fun x => hne x.1.symm)
  obtain ⟨hvec, hled, hframe⟩ := toinline_ok cfg (w := wb) (n' := n') a' hvb hlb hheap hn
    (w' := { w2 with mem := upd w2.mem (wb.hdr c).data [], live := w2.live.erase (wb.hdr c).data,
                     trace := w2.trace ++ [.dealloc (wb.hdr c).data (wb.hdr c).cap (wb.hdr c).alloc],
                     hdr := upd wb.hdr c { wb.hdr c with data := (wb.hdr c).inl, cap := (wb.hdr c).N, size := n', alloc := a' } })
    rfl hc2.next hc2.ntmp (by show w2.live.erase _ = _; rw [hc2.live]) hc2.owner
    (fun b hb => by show (upd w2.mem _ [] b).length = _; rw [upd_other _ _ _ _ hb, hc2.len])
    (fun i hi' => isObj_of_eq (hinl4 i) (hobj1 i hi'))
    (fun i x y => isRaw_of_eq (hinl4 i) (hraw1 i x y))
    (upd_same _ _ _)
    (fun b hb1 hb2 => by
      show upd w2.mem _ [] b = _
      rw [upd_other _ _ _ _ hb1]
      exact List.ext_getElem? (fun i => (hrest2 b i (fun x => hb1 x.1)).trans (hoth1 b i hb1 hb2)))
  exact ⟨⟨hvec, hled, hc2.ub, hframe⟩, upd_same _ _ _, hinl4⟩

end SvModel
