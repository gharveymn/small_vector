/-
AllocKept (no container's allocator changes, in either outcome, on every world) for the append / erase kernels and the
single-pass loops built from them; with it the allocator clause (C07) for the single-pass range constructor.
-/
import SvModel.Proofs.AllocKept

namespace SvModel
open Gen
variable {α : Type}

theorem AllocKept.emit (e : Ev) : AllocKept (emit e : M α Unit) := fun _ _ => rfl

theorem AllocKept.eraseRange (cfg : Cfg) (c first last : Nat) : AllocKept (eraseRange cfg c first last : M α Nat) :=
  (Counts.nothing.eraseRange cfg c first last).allocKept

theorem AllocKept.appendElement (cfg : Cfg) (c : Nat) (s : Src α) : AllocKept (appendElement cfg c s : M α Nat) :=
  (Counts.nothing.appendElement cfg c s).allocKept

theorem AllocKept.appendRangeInputLoop (cfg : Cfg) (c : Nat) (strong : Bool) (orig sid : Nat) :
    ∀ (xs : List α) (p : Nat), AllocKept (appendRangeInputLoop cfg c strong orig sid p xs : M α Unit)
  | [], _ => by unfold SvModel.appendRangeInputLoop; exact AllocKept.pure ()
  | x :: xs, p => by
    unfold SvModel.appendRangeInputLoop
    refine AllocKept.bind (AllocKept.emit _) (fun _ => AllocKept.bind ?_ (fun _ => AllocKept.bind (AllocKept.emit _) (fun _ =>
      AllocKept.appendRangeInputLoop cfg c strong orig sid xs (p + 1))))
    cases strong
    · exact AllocKept.appendElement _ _ _
    · exact AllocKept.tryCatch (AllocKept.appendElement _ _ _) (fun e => AllocKept.bind (AllocKept.getV _) (fun v =>
        AllocKept.bind (AllocKept.eraseRange _ _ _ _) (fun _ => AllocKept.throwE e)))

theorem AllocKept.appendRangeInput (cfg : Cfg) (c : Nat) (strong : Bool) (sid p : Nat) (xs : List α) :
    AllocKept (appendRangeInput cfg c strong sid p xs : M α Nat) := by
  unfold SvModel.appendRangeInput
  exact AllocKept.bind (AllocKept.getV _) (fun v => AllocKept.bind (AllocKept.appendRangeInputLoop _ _ _ _ _ _ _) (fun _ => AllocKept.pure _))

/-- C07 for the single-pass range constructor: a container it constructs holds the supplied allocator, and no other
    container's allocator changes, whether it returns or throws — on every world -/
theorem ctorInput_alloc (cfg : Cfg) (c a sid : Nat) (vs : List α) (w : World α) :
    (ctorInput cfg c a sid vs w).sat
      (fun _ w' => (w'.hdr c).alloc = a ∧ ∀ d, d ≠ c → (w'.hdr d).alloc = (w.hdr d).alloc)
      (fun _ w' => ∀ d, d ≠ c → (w'.hdr d).alloc = (w.hdr d).alloc) := by
  have h : CtorSets c a (setAlloc c a >>= fun _ => setDefault c >>= fun _ =>
      tryCatch (appendRangeInput cfg c false sid 0 vs >>= fun _ => (pure () : M α Unit)) (fun e => wipe cfg c >>= fun _ => throwE e)) :=
    ctor_sets (AllocKept.bind (AllocKept.setDefault c) (fun _ =>
      AllocKept.tryCatch (AllocKept.bind (AllocKept.appendRangeInput _ _ _ _ _ _) (fun _ => AllocKept.pure ()))
        (fun e => AllocKept.bind (AllocKept.wipe _ _) (fun _ => AllocKept.throwE e))))
  have := h w
  unfold ctorInput ctorDefault
  rw [bind_assoc_run]
  exact this

end SvModel
