/-
C14, second half: "O(n) element relocations in total".  Counting CONSTRUCTION events (copy / move / value construction)
on the trace, for every world and fault list, along the push_back path: a push_back into spare capacity constructs one
element; a reallocating push_back constructs the new element and relocates `size` old ones — never more.
`EB k m`: `m` adds at most `k` construction events, whether it returns or throws.
-/
import SvModel.Proofs.GuardEqs
import SvModel.Ops
import SvModel.Proofs.Effect

namespace SvModel
open Gen
variable {α β γ : Type}

def Ev.isCtor : Ev → Bool
  | .cctor _ _ | .mctor _ _ | .vctor _ _ => true
  | _ => false

def nCtor (t : List Ev) : Nat := t.countP Ev.isCtor

theorem nCtor_append (a b : List Ev) : nCtor (a ++ b) = nCtor a + nCtor b := by simp [nCtor, List.countP_append]
theorem nCtor_snoc_le (t : List Ev) (e : Ev) : nCtor (t ++ [e]) ≤ nCtor t + 1 := by
  rw [nCtor_append]; simp only [nCtor, List.countP_cons, List.countP_nil]; split <;> omega
theorem nCtor_snoc_other (t : List Ev) (e : Ev) (h : e.isCtor = false) : nCtor (t ++ [e]) = nCtor t := by
  rw [nCtor_append]; simp [nCtor, h]

def EB (k : Nat) (m : M α β) : Prop := ∀ w, nCtor (m w).world.trace ≤ nCtor w.trace + k

theorem EB.graded : Graded (fun k (w w' : World α) => nCtor w'.trace ≤ nCtor w.trace + k) :=
  ⟨fun _ => Nat.le_refl _, fun h1 h2 => by omega, fun h hk => by omega⟩

theorem EB.mono {k k' : Nat} {m : M α β} (h : EB k m) (hk : k ≤ k') : EB k' m := Rel.mono EB.graded h hk
theorem EB.pure (b : β) : EB 0 (pure b : M α β) := Rel.pure EB.graded b
theorem EB.throwE (e : Exc) : EB 0 (throwE e : M α β) := Rel.throwE EB.graded e

theorem EB.bind {m : M α β} {f : β → M α γ} {k1 k2 : Nat} (h1 : EB k1 m) (h2 : ∀ b, EB k2 (f b)) : EB (k1 + k2) (m >>= f) :=
  Rel.bind EB.graded h1 h2

theorem EB.tryCatch {m : M α β} {h : Exc → M α β} {k1 k2 : Nat} (h1 : EB k1 m) (h2 : ∀ e, EB k2 (h e)) : EB (k1 + k2) (tryCatch m h) :=
  Rel.tryCatch EB.graded h1 h2

theorem EB.ite {c : Prop} [Decidable c] {m n : M α β} {k : Nat} (h1 : EB k m) (h2 : EB k n) : EB k (if c then m else n) := by
  split <;> assumption

/-! `Counts` (Proofs/Effect.lean) does not apply: it asks that no storage event is counted, and a construction is one.  So
the operations on the path are walked again here (`Ctor.*`), with the bound each of them adds. -/
theorem Adds.eb {k : Nat} {m : M α β} (h : Adds Ev.isCtor k m) : EB k m := fun w => by
  obtain ⟨_, es, ht, hc⟩ := h w
  rw [ht, nCtor_append]
  exact Nat.add_le_add_left hc _

namespace Ctor
theorem zero {e : Ev} (h : e.isCtor = false) : [e].countP Ev.isCtor ≤ 0 := by simp [h]

theorem destroyRange (c : Cfg) (b : Nat) : ∀ (n first : Nat), Adds Ev.isCtor 0 (destroyRange c b first n : M α Unit)
  | 0, _ => Adds.pure ()
  | n+1, first => Adds.bind0 (Adds.destroyAt _ _ _ (zero rfl)) (fun _ => destroyRange c b n (first+1))

theorem constructSrc (c : Cfg) (b i : Nat) (s : Src α) : Adds Ev.isCtor 1 (constructSrc c b i s) :=
  Adds.constructSrc (fun e _ => List.countP_le_length (l := [e])) c b i s

theorem uninitGen (c : Cfg) (b d : Nat) : ∀ (srcs : List (Src α)) (done : Nat), Adds Ev.isCtor srcs.length (uninitGen c b d done srcs)
  | [], _ => Adds.pure ()
  | s :: rest, done =>
    Adds.mono (Rel.bind (Eff.graded _) (Adds.tryCatchL (constructSrc c b (d + done) s)
      (fun e => Adds.bind0 (destroyRange c b done d) (fun _ => Adds.throwE e)))
      (fun _ => uninitGen c b d rest (done + 1))) (by simp; omega)

theorem resetData (cfg : Cfg) (c nb ncap n : Nat) : Adds Ev.isCtor 0 (resetData cfg c nb ncap n : M α Unit) := by
  unfold SvModel.resetData SvModel.wipe
  exact Adds.bind0 (Adds.bind0 (Adds.getV _) (fun v => Adds.bind0 (destroyRange _ _ _ _) (fun _ =>
    Adds.ite (Adds.deallocate _ _ _ (zero rfl)) (Adds.pure ())))) (fun _ => Adds.setData _ _ _ _)

theorem uninitializedMove (cfg : Cfg) (strong : Bool) (sb si n db di : Nat) :
    Adds Ev.isCtor n (uninitializedMove cfg strong sb si n db di : M α Unit) := by
  unfold SvModel.uninitializedMove
  refine Adds.mono (uninitGen cfg db di (if strong && !relocateWithMove cfg.policy then (srcsCopy sb si n : List (Src α)) else srcsMove sb si n) 0) ?_
  split <;> simp [srcsCopy, srcsMove]

theorem emplaceIntoCurrentEnd (cfg : Cfg) (c : Nat) (s : Src α) : Adds Ev.isCtor 1 (emplaceIntoCurrentEnd cfg c s) := by
  unfold SvModel.emplaceIntoCurrentEnd
  exact Adds.bind0 (Adds.getV _) (fun v => Adds.bindL (constructSrc _ _ _ _) (fun _ => Adds.bind0 (Adds.setSize _ _) (fun _ => Adds.pure _)))
end Ctor

theorem EB.allocate (c : Cfg) (a n : Nat) : EB 0 (allocate c a n : M α Nat) := (Adds.allocate c a n (fun _ => Ctor.zero rfl)).eb
theorem EB.deallocate (a b n : Nat) : EB 0 (deallocate a b n : M α Unit) := (Adds.deallocate a b n (Ctor.zero rfl)).eb
theorem EB.destroyAt (c : Cfg) (b i : Nat) : EB 0 (destroyAt c b i : M α Unit) := (Adds.destroyAt c b i (Ctor.zero rfl)).eb
theorem EB.destroyRange (c : Cfg) (b : Nat) : ∀ (n first : Nat), EB 0 (destroyRange c b first n : M α Unit) :=
  fun n first => (Ctor.destroyRange c b n first).eb
theorem EB.resetData (cfg : Cfg) (c nb ncap n : Nat) : EB 0 (resetData cfg c nb ncap n : M α Unit) := (Ctor.resetData cfg c nb ncap n).eb

/-- the reallocating push_back: the new element plus one construction per old element -/
theorem emplaceIntoReallocationEnd_ctor_bound (cfg : Cfg) (c : Nat) (s : Src α) (w : World α) :
    nCtor (emplaceIntoReallocationEnd cfg c s w).world.trace ≤ nCtor w.trace + (1 + (w.hdr c).size) := by
  unfold SvModel.emplaceIntoReallocationEnd
  show nCtor ((if guard_emplaceIntoReallocationEnd_0 (genv cfg (w.hdr c)) = true then (throwE Exc.length : M α Nat) else _) w).world.trace ≤ _
  refine Adds.eb (Adds.ite (Adds.throwE _) ?_) w
  refine Adds.bind0 (Adds.allocate _ _ _ (fun _ => Ctor.zero rfl)) (fun nb => Adds.bindL ?_ (fun _ => Adds.bind0 (Ctor.resetData _ _ _ _ _) (fun _ => Adds.pure _)))
  unfold emplaceReallocEndTry
  refine Adds.tryCatchL ?_ (fun e => Adds.bind0 (Adds.deallocate _ _ _ (Ctor.zero rfl)) (fun _ => Adds.throwE e))
  exact Rel.bind (Eff.graded _) (Ctor.constructSrc _ _ _ _) (fun _ =>
    Adds.tryCatchL (Ctor.uninitializedMove _ _ _ _ _ _ _) (fun e => Adds.bind0 (Adds.destroyAt _ _ _ (Ctor.zero rfl)) (fun _ => Adds.throwE e)))

/-- push_back / emplace_back: one construction in place, 1 + size when it reallocates -/
theorem appendElement_ctor_bound (cfg : Cfg) (c : Nat) (s : Src α) (w : World α) :
    nCtor (appendElement cfg c s w).world.trace ≤
      nCtor w.trace + (if (w.hdr c).size < (w.hdr c).cap then 1 else 1 + (w.hdr c).size) := by
  unfold appendElement
  show nCtor ((if guard_appendElement_0 (genv cfg (w.hdr c)) = true then _ else _ : M α Nat) w).world.trace ≤ _
  rw [guard_appendElement_0_eq]
  by_cases h : (w.hdr c).size < (w.hdr c).cap
  · rw [if_pos (decide_eq_true h), if_pos h]; exact (Ctor.emplaceIntoCurrentEnd cfg c s).eb w
  · rw [if_neg (by simpa using h), if_neg h]; exact emplaceIntoReallocationEnd_ctor_bound cfg c s w

end SvModel
