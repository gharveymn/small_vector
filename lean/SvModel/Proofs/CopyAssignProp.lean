/-
Copy assignment, PROPAGATING allocator that is not equal to the destination's (`copy_assign` with
propagate_on_container_copy_assignment, hpp:2882-2960): the destination must not keep a block of its old allocator, so
  * a source that does not fit in the in-object buffer is copied into a block obtained from the SOURCE's allocator;
  * otherwise a heap destination copies into its in-object buffer and releases its block;
  * otherwise (inline destination) the copy happens in place;
and the destination takes over the source's allocator.  Only the destination changes (one `Basic` step).
-/
import SvModel.Proofs.CopyAssign
import SvModel.Proofs.ToInline
import SvModel.Proofs.Capacity

namespace SvModel
open Gen
variable {α : Type}

theorem copyAssignRealloc_sat (cfg : Cfg) (c : Nat) (srcs : List (Src α)) (w : World α) (Al : Nat)
    (hv : VecOK cfg w c) (hl : Ledger w) (hext : Foreign cfg w c srcs)
    (hN : (w.hdr c).N < srcs.length) (hmax : srcs.length ≤ cfg.maxSize) :
    ((allocate cfg Al srcs.length >>= fun nb =>
      tryCatch (uninitGen cfg nb 0 0 srcs) (fun ex => deallocate Al nb srcs.length >>= fun _ => throwE ex) >>= fun _ =>
      resetData cfg c nb srcs.length srcs.length >>= fun _ => setAlloc c Al) w).sat
      (fun _ w' => Basic cfg w w' c ∧ Holds w' c (srcs.map (srcVal w)) ∧ (w'.hdr c).alloc = Al)
      (fun _ w' => Strong w w') := by
  refine buildCopy_sat cfg c Al srcs.length srcs w (fun nb => resetData cfg c nb srcs.length srcs.length >>= fun _ => setAlloc c Al)
    hv hl hext (Nat.le_refl _) (fun w3 hb3 hnew3 _ => ?_) (fun _ _ _ h => h)
  have hfin := finish_realloc_alloc (n' := srcs.length) hv hl hb3 hN hmax (Nat.le_refl _)
    (fun i hi => ⟨_, hnew3 i hi⟩) (fun i h1 h2 => by omega)
  refine Res.sat_mono hfin ?_ (fun _ _ h => h.elim)
  intro _ w' ⟨hvec, hled, hframe, hub, hhc, hmemn, hnext⟩
  exact ⟨⟨hvec, hled, hub, hframe⟩, holds_map_of_slots (by rw [hhc]) (by rw [hhc]) (fun i hi => by rw [hmemn]; exact hnew3 i hi),
         by rw [hhc]⟩

theorem copyAssignToInline_sat (cfg : Cfg) (c : Nat) (srcs : List (Src α)) (w : World α) (a' : Nat)
    (hv : VecOK cfg w c) (hl : Ledger w) (hext : Foreign cfg w c srcs)
    (hheap : (w.hdr c).N < (w.hdr c).cap) (hfit : srcs.length ≤ (w.hdr c).N) :
    (((uninitGen cfg (w.hdr c).inl 0 0 srcs >>= fun _ =>
        destroyRange cfg (w.hdr c).data 0 (w.hdr c).size >>= fun _ =>
        deallocate (w.hdr c).alloc (w.hdr c).data (w.hdr c).cap >>= fun _ =>
        setDataPtr c (w.hdr c).inl >>= fun _ => setCapacity c (w.hdr c).N) >>= fun _ =>
      setSize c srcs.length >>= fun _ => setAlloc c a') w).sat
      (fun _ w' => Basic cfg w w' c ∧ Holds w' c (srcs.map (srcVal w)) ∧ (w'.hdr c).alloc = a')
      (fun _ w' => Strong w w') := by
  have hne : (w.hdr c).data ≠ (w.hdr c).inl := (hv.heap_iff).mp hheap
  obtain ⟨hilen, hiraw⟩ := hv.idle hne
  simp only [M_bind_assoc]
  have hfill := uninitGen_nonmoving_sat cfg (w.hdr c).inl 0 srcs 0 w hext.nonmoving hext.live (fun j h => by omega)
    (fun k hk => by simpa using hiraw k (by omega))
  refine sat_bind hfill (fun _ w1 ⟨hc1, hv1, hrest1⟩ => ?_) (fun e w1 ⟨_, hc1, hr1, hrest1⟩ => ?_)
  · have hnotinl : ∀ s ∈ srcs, ∀ b i, s.loc = some (b, i) → (w1.mem b)[i]? = (w.mem b)[i]? := fun s hs b i hl' =>
      hrest1 b i (by intro ⟨h, _⟩; exact (hext.apart s hs b i hl').2.1 h)
    have htl := toInline_tail cfg c w w1 srcs.length a' hv hl hheap hfit hc1
      (fun i => hrest1 _ i (by intro ⟨h, _⟩; exact hne h))
      (fun i hi' => ⟨_, by have := hv1 i hi'; simpa using this⟩)
      (fun i x y => isRaw_of_eq (hrest1 _ i (by intro ⟨_, _, z⟩; omega)) (hiraw i y))
      (fun b i _ hb2 => hrest1 b i (by intro ⟨h, _⟩; exact hb2 h))
    refine Res.sat_mono htl ?_ (fun _ _ h => h.elim)
    intro _ w' ⟨hb, hhc, hinl⟩
    exact ⟨hb, holds_map_of_slots (by rw [hhc]) (by rw [hhc]) (fun i hi' => by
      have := hv1 i hi'
      simp only [Nat.zero_add] at this
      rw [hinl i, this]), by rw [hhc]⟩
  · refine Strong.of_slots hl hc1 (fun b i => ?_)
    by_cases h : b = (w.hdr c).inl ∧ 0 ≤ i ∧ i < 0 + 0 + srcs.length
    · obtain ⟨hb, h1, h2⟩ := h
      rw [hb]; exact (hr1 i h1 h2).slot_eq (hiraw i (by omega))
    · exact hrest1 b i h

theorem Basic.setAlloc {cfg : Cfg} {w w' : World α} {c : Nat} (hb : Basic cfg w w' c) (a' : Nat)
    (hin : (w'.hdr c).data = (w'.hdr c).inl ∨ a' = (w'.hdr c).alloc) :
    Basic cfg w ({ w' with hdr := upd w'.hdr c { w'.hdr c with alloc := a' } } : World α) c := by
  have hf := hb.frame
  have hhc : ({ w' with hdr := upd w'.hdr c { w'.hdr c with alloc := a' } } : World α).hdr c = { w'.hdr c with alloc := a' } :=
    upd_same _ _ _
  refine ⟨hb.vec.setAlloc a' hin, hb.led.with_hdr _, hb.ub,
    fun d hd => (upd_other _ _ _ _ hd).trans (hf.hdr_other d hd), ?_, ?_, hf.mem_other, hf.owner_old, hf.next_mono, ?_,
    fun b hb' => ?_, fun b hb' => ?_⟩ <;> rw [hhc]
  · exact hf.hdr_N
  · exact hf.hdr_inl
  · exact hf.data_new
  · exact hf.live.old b hb'
  · exact hf.live.fresh b hb'

theorem copyAssignProp_sat (cfg : Cfg) (c o : Nat) (w : World α)
    (hv : VecOK cfg w c) (hl : Ledger w) (hNmax : (w.hdr c).N ≤ cfg.maxSize)
    (hvo : VecOK cfg w o) (hNo : (w.hdr o).N ≤ cfg.maxSize)
    (hfor : Foreign cfg w c (srcsCopy (w.hdr o).data 0 (w.hdr o).size))
    (hprop : copyAssignPropagating cfg.policy = true) (hneq : (w.hdr o).alloc ≠ (w.hdr c).alloc) :
    (copyAssign cfg c o w).sat
      (fun _ w' => Basic cfg w w' c ∧ Holds w' c ((srcsCopy (w.hdr o).data 0 (w.hdr o).size).map (srcVal w)) ∧
                   (w'.hdr c).alloc = (w.hdr o).alloc)
      (fun _ w' => Basic cfg w w' c) := by
  have hsz : (w.hdr o).size ≤ cfg.maxSize := Nat.le_trans hvo.size_le (hvo.cap_le_max hNo)
  have hpo : cfg.policy.pocca = true := by
    unfold copyAssignPropagating at hprop; simp only [Bool.and_eq_true] at hprop; exact hprop.1
  have hmc : maybeCopy cfg.policy (w.hdr c).alloc (w.hdr o).alloc = (w.hdr o).alloc := by unfold maybeCopy; simp [hpo]
  unfold copyAssign
  rw [hprop]; simp only [Bool.not_true, Bool.false_eq_true, if_false]
  rw [getV_bind, getV_bind]
  rw [guard_copyAssign0_0_eq, guard_copyAssign0_1_eq, guard_copyAssign0_2_eq, guard_copyAssign0_3_eq, hmc,
    if_neg (by simpa using hneq)]
  have hlen : (srcsCopy (w.hdr o).data 0 (w.hdr o).size : List (Src α)).length = (w.hdr o).size := srcsCopy_length _ _ _
  by_cases hbig : (w.hdr c).N < (w.hdr o).size
  · rw [if_pos (decide_eq_true hbig)]
    have := copyAssignRealloc_sat cfg c (srcsCopy (w.hdr o).data 0 (w.hdr o).size) w (w.hdr o).alloc hv hl hfor
      (by rw [hlen]; exact hbig) (by rw [hlen]; exact hsz)
    rw [hlen] at this
    exact Res.sat_mono this (fun _ _ h => h) (fun _ w' h => h.basic hl hv)
  · rw [if_neg (fun h => hbig (of_decide_eq_true h))]
    by_cases hch : (w.hdr c).N < (w.hdr c).cap
    · rw [if_pos (decide_eq_true hch)]
      have := copyAssignToInline_sat cfg c (srcsCopy (w.hdr o).data 0 (w.hdr o).size) w (w.hdr o).alloc hv hl hfor hch (by rw [hlen]; omega)
      rw [hlen] at this
      exact Res.sat_mono this (fun _ _ h => h) (fun _ w' h => h.basic hl hv)
    · rw [if_neg (fun h => hch (of_decide_eq_true h))]
      have hcin : (w.hdr c).data = (w.hdr c).inl := (hv.inl_iff).mp (by have := hv.cap_ge; omega)
      have hcapN : (w.hdr c).cap = (w.hdr c).N := (hv.inl_iff).mpr hcin
      rw [← bind_assoc_run]
      have h := assignWithRangeFwd_foreign_sat cfg c _ w hv hl hfor
      rw [← copyInPlace_eq cfg c o w (by omega)] at h
      refine sat_bind h (fun _ w1 h => ?_) (fun _ _ h => h.1.1)
      have hkept := h.inplace (by rw [List.length_map, hlen]; omega)
      have hin1 : (w1.hdr c).data = (w1.hdr c).inl := by
        rw [hkept.1, h.basic.frame.hdr_inl]; exact hcin
      rw [setAlloc_run]
      exact ⟨h.basic.setAlloc _ (Or.inl hin1), h.holds.setAlloc c _, by show (upd w1.hdr c _ c).alloc = _; rw [upd_same]⟩

end SvModel
