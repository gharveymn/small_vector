/-
`Adds p k m` — what a model program does to the two parts of the world that the trace predicates (`AB`, `EB`,
`NoIter`) and the allocator predicate (`AllocKept`) observe: no container's allocator field changes, and the trace is
extended by events of which at most `k` satisfy `p` — whether `m` returns or throws, for every world.

One structural pass over each model function establishes it for every counting predicate `p` that ignores the element
and deallocation events (`Counts p g`; an allocation event weighs at most `g`): "at most one allocation" (`p` =
is-allocation, `g = 1`), "no iterator event" (`p` = is-iterator-event, `g = 0`) and "allocators kept" are read off it.
-/
import SvModel.Ops
import SvModel.Proofs.Rel
import SvModel.Proofs.PrimSpec

namespace SvModel
open Gen
variable {α β γ : Type}

def Eff (p : Ev → Bool) (k : Nat) (w w' : World α) : Prop :=
  (∀ d, (w'.hdr d).alloc = (w.hdr d).alloc) ∧ ∃ es, w'.trace = w.trace ++ es ∧ es.countP p ≤ k

theorem Eff.graded (p : Ev → Bool) : Graded (Eff (α := α) p) where
  refl _ := ⟨fun _ => rfl, [], (List.append_nil _).symm, Nat.le_refl _⟩
  trans := fun ⟨a1, e1, t1, c1⟩ ⟨a2, e2, t2, c2⟩ =>
    ⟨fun d => (a2 d).trans (a1 d), e1 ++ e2, by rw [t2, t1, List.append_assoc], by rw [List.countP_append]; omega⟩
  mono := fun ⟨a, e, t, c⟩ hk => ⟨a, e, t, Nat.le_trans c hk⟩

theorem Eff.same {p : Ev → Bool} {k : Nat} {w w' : World α} (hh : w'.hdr = w.hdr) (ht : w'.trace = w.trace) : Eff p k w w' :=
  ⟨fun _ => by rw [hh], [], by rw [ht, List.append_nil], Nat.zero_le _⟩

theorem Eff.event {p : Ev → Bool} {k : Nat} {w w' : World α} {e : Ev} (hh : w'.hdr = w.hdr) (ht : w'.trace = w.trace ++ [e])
    (hk : [e].countP p ≤ k) : Eff p k w w' :=
  ⟨fun _ => by rw [hh], [e], ht, hk⟩

theorem Eff.logged {p : Ev → Bool} {k : Nat} {w w' : World α} {e : Ev} (c : Cfg) (hh : w'.hdr = w.hdr)
    (ht : w'.trace = if c.trivial then w.trace else w.trace ++ [e]) (hk : [e].countP p ≤ k) : Eff p k w w' := by
  split at ht
  · exact Eff.same hh ht
  · exact Eff.event hh ht hk

abbrev Adds (p : Ev → Bool) (k : Nat) (m : M α β) : Prop := Rel (Eff p k) m

section
variable {p : Ev → Bool}

theorem Adds.mono {k k' : Nat} {m : M α β} (h : Adds p k m) (hk : k ≤ k') : Adds p k' m := Rel.mono (Eff.graded p) h hk
theorem Adds.pure {k : Nat} (b : β) : Adds p k (pure b : M α β) := Adds.mono (Rel.pure (Eff.graded p) b) (Nat.zero_le k)
theorem Adds.throwE {k : Nat} (e : Exc) : Adds p k (throwE e : M α β) := Adds.mono (Rel.throwE (Eff.graded p) e) (Nat.zero_le k)

theorem Adds.bind0 {m : M α β} {f : β → M α γ} {k : Nat} (h1 : Adds p 0 m) (h2 : ∀ b, Adds p k (f b)) : Adds p k (m >>= f) :=
  Adds.mono (Rel.bind (Eff.graded p) h1 h2) (Nat.le_of_eq (Nat.zero_add k))
theorem Adds.bindL {m : M α β} {f : β → M α γ} {k : Nat} (h1 : Adds p k m) (h2 : ∀ b, Adds p 0 (f b)) : Adds p k (m >>= f) :=
  Rel.bind (Eff.graded p) h1 h2
theorem Adds.tryCatchL {m : M α β} {h : Exc → M α β} {k : Nat} (h1 : Adds p k m) (h2 : ∀ e, Adds p 0 (h e)) :
    Adds p k (tryCatch m h) :=
  Rel.tryCatch (Eff.graded p) h1 h2
theorem Adds.finally {m : M α β} {fin : M α Unit} {k : Nat} (h1 : Adds p k m) (h2 : Adds p 0 fin) : Adds p k (finally_ m fin) :=
  Rel.finally (Eff.graded p) h1 h2
theorem Adds.ite {c : Prop} [Decidable c] {m n : M α β} {k : Nat} (h1 : Adds p k m) (h2 : Adds p k n) :
    Adds p k (if c then m else n) := by
  split <;> assumption

theorem Adds.tick {k : Nat} (on : Bool) (e : Exc) : Adds p k (tick on e : M α Unit) := by
  intro w; unfold SvModel.tick
  cases on
  · exact Eff.same rfl rfl
  · match w.faults with
    | [] => exact Eff.same rfl rfl
    | 0 :: _ => exact Eff.same rfl rfl
    | (_+1) :: _ => exact Eff.same rfl rfl

theorem Adds.getV {k : Nat} (c : Nat) : Adds p k (getV c : M α Vec) := fun _ => Eff.same rfl rfl
theorem Adds.modV {k : Nat} (c : Nat) (f : Vec → Vec) (hf : ∀ v, (f v).alloc = v.alloc) : Adds p k (modV c f : M α Unit) := by
  intro w
  refine ⟨fun d => ?_, [], (List.append_nil _).symm, Nat.zero_le _⟩
  show ((upd w.hdr c (f (w.hdr c))) d).alloc = _
  by_cases h : d = c
  · subst h; rw [upd_same, hf]
  · rw [upd_other _ _ _ _ h]
theorem Adds.setSize {k : Nat} (c n : Nat) : Adds p k (setSize c n : M α Unit) := Adds.modV _ _ (fun _ => rfl)
theorem Adds.setDataPtr {k : Nat} (c n : Nat) : Adds p k (setDataPtr c n : M α Unit) := Adds.modV _ _ (fun _ => rfl)
theorem Adds.setCapacity {k : Nat} (c n : Nat) : Adds p k (setCapacity c n : M α Unit) := Adds.modV _ _ (fun _ => rfl)
theorem Adds.setData {k : Nat} (c b n s : Nat) : Adds p k (setData c b n s : M α Unit) := Adds.modV _ _ (fun _ => rfl)
theorem Adds.setToInlineStorage {k : Nat} (c : Nat) : Adds p k (setToInlineStorage c : M α Unit) := Adds.modV _ _ (fun _ => rfl)
theorem Adds.setDefault {k : Nat} (c : Nat) : Adds p k (setDefault c : M α Unit) :=
  Adds.bind0 (Adds.setToInlineStorage c) (fun _ => Adds.setSize c 0)
theorem Adds.allocTemp {k : Nat} : Adds p k (allocTemp : M α Nat) := fun _ => Eff.same rfl rfl
theorem Adds.readSlot {k : Nat} (b i : Nat) : Adds p k (readSlot b i : M α (Val α)) := by
  intro w; unfold SvModel.readSlot; split <;> exact Eff.same rfl rfl
theorem Adds.huskSlot {k : Nat} (c : Cfg) (b i : Nat) : Adds p k (huskSlot c b i : M α Unit) := by
  intro w; unfold SvModel.huskSlot
  split
  · split <;> exact Eff.same rfl rfl
  · exact Eff.same rfl rfl

theorem Adds.putObj {k : Nat} (c : Cfg) (b i : Nat) (v : Val α) (e : Ev) (hk : [e].countP p ≤ k) : Adds p k (putObj c b i v e : M α Unit) := by
  intro w; unfold SvModel.putObj
  split
  · exact Eff.logged c rfl rfl hk
  · exact Eff.same rfl rfl
theorem Adds.setObj {k : Nat} (c : Cfg) (b i : Nat) (v : Val α) (e : Ev) (hk : [e].countP p ≤ k) : Adds p k (setObj c b i v e : M α Unit) := by
  intro w; unfold SvModel.setObj
  split
  · exact Eff.logged c rfl rfl hk
  · exact Eff.same rfl rfl
theorem Adds.destroyAt {k : Nat} (c : Cfg) (b i : Nat) (hk : [Ev.dtor b i].countP p ≤ k) : Adds p k (destroyAt c b i : M α Unit) := by
  intro w; unfold SvModel.destroyAt
  split
  · exact Eff.logged c rfl rfl hk
  · exact Eff.same rfl rfl
theorem Adds.deallocate {k : Nat} (a b n : Nat) (hk : [Ev.dealloc b n a].countP p ≤ k) : Adds p k (deallocate a b n : M α Unit) := by
  intro w; unfold SvModel.deallocate
  split
  · exact Eff.event rfl rfl hk
  · exact Eff.same rfl rfl
theorem Adds.allocate {k : Nat} (c : Cfg) (a n : Nat) (hk : ∀ b, [Ev.alloc b n a].countP p ≤ k) : Adds p k (allocate c a n : M α Nat) := by
  unfold SvModel.allocate
  exact Adds.bind0 (Adds.tick _ _) (fun _ w => Eff.event rfl rfl (hk _))
theorem Adds.writeSrc {k : Nat} (c : Cfg) {put : Val α → M α Unit} (hput : ∀ v, Adds p k (put v)) (on : Bool) (s : Src α) :
    Adds p k (writeSrc c put on s) := by
  cases s <;> unfold SvModel.writeSrc
  · exact Adds.bind0 (Adds.tick _ _) (fun _ => hput _)
  · exact Adds.bind0 (Adds.tick _ _) (fun _ => hput _)
  · exact Adds.bind0 (Adds.tick _ _) (fun _ => Adds.bind0 (Adds.readSlot _ _) (fun _ => hput _))
  · exact Adds.bind0 (Adds.tick _ _) (fun _ => Adds.bind0 (Adds.readSlot _ _) (fun _ =>
      Adds.bindL (hput _) (fun _ => Adds.huskSlot _ _ _)))
  · exact Adds.bind0 (Adds.tick _ _) (fun _ => hput _)
end

section
variable {p : Ev → Bool} {k : Nat} (hk : ∀ e, e.isStorage = true → [e].countP p ≤ k)
include hk

theorem Adds.constructSrc (c : Cfg) (b i : Nat) (s : Src α) : Adds p k (constructSrc c b i s) := by
  obtain ⟨ev, hev, h⟩ := constructSrc_eq c b i s
  rw [h]
  exact Adds.writeSrc c (fun _ => Adds.putObj _ _ _ _ _ (hk ev hev)) _ s

theorem Adds.assignSrc (c : Cfg) (b i : Nat) (s : Src α) : Adds p k (assignSrc c b i s) := by
  obtain ⟨ev, hev, h⟩ := assignSrc_eq c b i s
  rw [h]
  exact Adds.writeSrc c (fun _ => Adds.setObj _ _ _ _ _ (hk ev hev)) _ s
end

structure Counts (p : Ev → Bool) (g : Nat) : Prop where
  storage : ∀ e, e.isStorage = true → p e = false
  alloc   : ∀ b n a, [Ev.alloc b n a].countP p ≤ g

theorem Counts.nothing : Counts (fun _ => false) 0 := ⟨fun _ _ => rfl, fun _ _ _ => Nat.le_refl _⟩

namespace Counts
variable {p : Ev → Bool} {g : Nat} (C : Counts p g)
include C

theorem zero (e : Ev) (he : e.isStorage = true) : [e].countP p ≤ 0 := by
  simp [C.storage e he]

theorem constructSrc (c : Cfg) (b i : Nat) (s : Src α) : Adds p 0 (constructSrc c b i s) := Adds.constructSrc C.zero c b i s
theorem assignSrc (c : Cfg) (b i : Nat) (s : Src α) : Adds p 0 (assignSrc c b i s) := Adds.assignSrc C.zero c b i s
theorem destroyAt (c : Cfg) (b i : Nat) : Adds p 0 (destroyAt c b i : M α Unit) := Adds.destroyAt c b i (C.zero _ rfl)
theorem deallocate (a b n : Nat) : Adds p 0 (deallocate a b n : M α Unit) := Adds.deallocate a b n (C.zero _ rfl)
theorem allocate (c : Cfg) (a n : Nat) : Adds p g (allocate c a n : M α Nat) := Adds.allocate c a n (fun b => C.alloc b n a)

/-- the handler of every guarded fill: give the block back and rethrow -/
theorem orGiveBack {m : M α β} {k : Nat} (hm : Adds p k m) (a b n : Nat) :
    Adds p k (tryCatch m (fun e => SvModel.deallocate a b n >>= fun _ => throwE e)) :=
  Adds.tryCatchL hm (fun e => Adds.bind0 (C.deallocate a b n) (fun _ => Adds.throwE e))

theorem destroyRange (c : Cfg) (b : Nat) : ∀ (n first : Nat), Adds p 0 (destroyRange c b first n : M α Unit)
  | 0, _ => Adds.pure ()
  | n+1, first => Adds.bind0 (C.destroyAt _ _ _) (fun _ => destroyRange c b n (first+1))

theorem uninitGen (c : Cfg) (b d : Nat) : ∀ (srcs : List (Src α)) (done : Nat), Adds p 0 (uninitGen c b d done srcs)
  | [], _ => Adds.pure ()
  | s :: rest, done =>
    Adds.bind0 (Adds.tryCatchL (C.constructSrc _ _ _ s)
      (fun e => Adds.bind0 (C.destroyRange _ _ _ _) (fun _ => Adds.throwE e)))
      (fun _ => uninitGen c b d rest (done + 1))

theorem assignGen (c : Cfg) (b : Nat) : ∀ (srcs : List (Src α)) (d : Nat), Adds p 0 (assignGen c b d srcs)
  | [], _ => Adds.pure ()
  | s :: rest, d => Adds.bind0 (C.assignSrc _ _ _ s) (fun _ => assignGen c b rest (d + 1))

theorem moveBackward (c : Cfg) (b a k : Nat) : ∀ n, Adds p 0 (moveBackward c b a k n : M α Unit)
  | 0 => Adds.pure ()
  | n+1 => Adds.bind0 (C.assignSrc _ _ _ _) (fun _ => moveBackward c b a k n)

theorem swapAt (c : Cfg) (b1 i1 b2 i2 : Nat) : Adds p 0 (swapAt c b1 i1 b2 i2 : M α Unit) := by
  unfold SvModel.swapAt
  exact Adds.bind0 Adds.allocTemp (fun t => Adds.bind0 (C.constructSrc _ _ _ _) (fun _ =>
    Adds.finally (Adds.bind0 (C.assignSrc _ _ _ _) (fun _ => C.assignSrc _ _ _ _)) (C.destroyAt _ _ _)))

theorem swapRanges (c : Cfg) (b1 b2 : Nat) : ∀ (n a1 a2 : Nat), Adds p 0 (swapRanges c b1 a1 b2 a2 n : M α Unit)
  | 0, _, _ => Adds.pure ()
  | n+1, a1, a2 => Adds.bind0 (C.swapAt _ _ _ _ _) (fun _ => swapRanges c b1 b2 n (a1+1) (a2+1))

theorem wipe (cfg : Cfg) (c : Nat) : Adds p 0 (wipe cfg c : M α Unit) := by
  unfold SvModel.wipe
  exact Adds.bind0 (Adds.getV _) (fun v => Adds.bind0 (C.destroyRange _ _ _ _) (fun _ => Adds.ite (C.deallocate _ _ _) (Adds.pure ())))

theorem resetData (cfg : Cfg) (c nb ncap n : Nat) : Adds p 0 (resetData cfg c nb ncap n : M α Unit) := by
  unfold SvModel.resetData
  exact Adds.bind0 (C.wipe _ _) (fun _ => Adds.setData _ _ _ _)

theorem uninitializedMove (cfg : Cfg) (strong : Bool) (sb si n db di : Nat) :
    Adds p 0 (uninitializedMove cfg strong sb si n db di : M α Unit) := by
  unfold SvModel.uninitializedMove; exact C.uninitGen _ _ _ _ _

theorem moveLeft (cfg : Cfg) (b f n d : Nat) : Adds p 0 (moveLeft cfg b f n d : M α Unit) := by
  unfold SvModel.moveLeft; exact C.assignGen _ _ _ _

theorem shiftIntoUninitialized (cfg : Cfg) (c pos n : Nat) : Adds p 0 (shiftIntoUninitialized cfg c pos n : M α Nat) := by
  unfold SvModel.shiftIntoUninitialized
  exact Adds.bind0 (Adds.getV _) (fun v => Adds.bind0 (C.uninitializedMove _ _ _ _ _ _ _) (fun _ =>
    Adds.bind0 (Adds.setSize _ _) (fun _ => Adds.bind0 (C.moveBackward _ _ _ _ _) (fun _ => Adds.pure _))))

theorem rollbackShift (cfg : Cfg) (c pos ie d : Nat) (e : Exc) : Adds p 0 (rollbackShift cfg c pos ie d e : M α Unit) := by
  unfold SvModel.rollbackShift
  exact Adds.bind0 (Adds.getV _) (fun v => Adds.bind0 (C.moveLeft _ _ _ _ _) (fun _ =>
    Adds.bind0 (C.destroyRange _ _ _ _) (fun _ => Adds.bind0 (Adds.setSize _ _) (fun _ => Adds.throwE _))))

theorem eraseLast (cfg : Cfg) (c : Nat) : Adds p 0 (eraseLast cfg c : M α Unit) := by
  unfold SvModel.eraseLast
  exact Adds.bind0 (Adds.getV _) (fun v => Adds.bind0 (Adds.setSize _ _) (fun _ => C.destroyAt _ _ _))

theorem eraseAt (cfg : Cfg) (c pos : Nat) : Adds p 0 (eraseAt cfg c pos : M α Nat) := by
  unfold SvModel.eraseAt
  exact Adds.bind0 (Adds.getV _) (fun v => Adds.bind0 (C.moveLeft _ _ _ _ _) (fun _ => Adds.bind0 (C.eraseLast _ _) (fun _ => Adds.pure _)))

theorem eraseToEnd (cfg : Cfg) (c pos : Nat) : Adds p 0 (eraseToEnd cfg c pos : M α Unit) := by
  unfold SvModel.eraseToEnd
  exact Adds.bind0 (Adds.getV _) (fun v => Adds.ite (Adds.bind0 (Adds.setSize _ _) (fun _ => C.destroyRange _ _ _ _)) (Adds.pure _))

theorem eraseRange (cfg : Cfg) (c f l : Nat) : Adds p 0 (eraseRange cfg c f l : M α Nat) := by
  unfold SvModel.eraseRange
  exact Adds.bind0 (Adds.getV _) (fun v => Adds.ite
    (Adds.bind0 (C.moveLeft _ _ _ _ _) (fun _ => Adds.bind0 (C.eraseToEnd _ _ _) (fun _ => Adds.pure _))) (Adds.pure _))

theorem eraseAll (cfg : Cfg) (c : Nat) : Adds p 0 (eraseAll cfg c : M α Unit) := by
  unfold SvModel.eraseAll
  exact Adds.bind0 (Adds.getV _) (fun v => Adds.bind0 (Adds.setSize _ _) (fun _ => C.destroyRange _ _ _ _))

theorem emplaceIntoCurrentEnd (cfg : Cfg) (c : Nat) (s : Src α) : Adds p 0 (emplaceIntoCurrentEnd cfg c s) := by
  unfold SvModel.emplaceIntoCurrentEnd
  exact Adds.bind0 (Adds.getV _) (fun v => Adds.bind0 (C.constructSrc _ _ _ _) (fun _ => Adds.bind0 (Adds.setSize _ _) (fun _ => Adds.pure _)))

theorem insertInPlaceSmall (cfg : Cfg) (c pos k : Nat) (fill : M α Unit) (hf : Adds p 0 fill) :
    Adds p 0 (insertInPlaceSmall cfg c pos k fill) := by
  unfold SvModel.insertInPlaceSmall
  exact Adds.bind0 (C.shiftIntoUninitialized _ _ _ _) (fun _ => Adds.tryCatchL hf (fun e => C.rollbackShift _ _ _ _ _ e))

theorem insertInPlaceLarge (cfg : Cfg) (c pos : Nat) (tailSrcs : List (Src α)) (withTmp : Option (Src α)) (headFill : Nat → M α Unit)
    (hf : ∀ t, Adds p 0 (headFill t)) : Adds p 0 (insertInPlaceLarge cfg c pos tailSrcs withTmp headFill) := by
  unfold SvModel.insertInPlaceLarge
  refine Adds.bind0 (Adds.getV _) (fun v => Adds.bind0 (C.uninitGen _ _ _ _ _) (fun _ =>
    Adds.bind0 (Adds.setSize _ _) (fun _ => Adds.tryCatchL ?_ (fun e => ?_))))
  · have body : ∀ t, Adds p 0 (SvModel.uninitializedMove cfg false v.data pos (v.size - pos) v.data (v.size + tailSrcs.length) >>= fun _ =>
        SvModel.setSize c (v.size + tailSrcs.length + (v.size - pos)) >>= fun _ =>
        SvModel.tryCatch (headFill t) (fun e => SvModel.rollbackShift cfg c pos (v.size + tailSrcs.length) (v.size - pos) e) : M α Unit) :=
      fun t => Adds.bind0 (C.uninitializedMove _ _ _ _ _ _ _) (fun _ => Adds.bind0 (Adds.setSize _ _) (fun _ =>
        Adds.tryCatchL (hf t) (fun e => C.rollbackShift _ _ _ _ _ e)))
    cases withTmp with
    | none => exact body 0
    | some s => exact Adds.bind0 Adds.allocTemp (fun t => Adds.bind0 (C.constructSrc _ _ _ _) (fun _ => Adds.finally (body t) (C.destroyAt _ _ _)))
  · exact Adds.bind0 (Adds.getV _) (fun v' => Adds.bind0 (C.destroyRange _ _ _ _) (fun _ =>
      Adds.bind0 (Adds.setSize _ _) (fun _ => Adds.throwE _)))

theorem emplaceIntoCurrent (cfg : Cfg) (c pos : Nat) (s : Src α) : Adds p 0 (emplaceIntoCurrent cfg c pos s) := by
  unfold SvModel.emplaceIntoCurrent
  refine Adds.bind0 (Adds.getV _) (fun v => Adds.ite (C.emplaceIntoCurrentEnd _ _ _) ?_)
  exact Adds.bind0 Adds.allocTemp (fun t => Adds.bind0 (C.constructSrc _ _ _ _) (fun _ =>
    Adds.bind0 (Adds.finally (Adds.bind0 (C.shiftIntoUninitialized _ _ _ _) (fun _ => C.assignSrc _ _ _ _)) (C.destroyAt _ _ _)) (fun _ => Adds.pure _)))

theorem emplaceIntoCurrentRv (cfg : Cfg) (c pos : Nat) (s : Src α) : Adds p 0 (emplaceIntoCurrentRv cfg c pos s) := by
  unfold SvModel.emplaceIntoCurrentRv
  refine Adds.bind0 (Adds.getV _) (fun v => Adds.ite (C.emplaceIntoCurrentEnd _ _ _) ?_)
  exact Adds.bind0 (C.shiftIntoUninitialized _ _ _ _) (fun _ => Adds.bind0 (C.destroyAt _ _ _) (fun _ =>
    Adds.bind0 (C.constructSrc _ _ _ _) (fun _ => Adds.pure _)))

theorem copyAssignInPlace (cfg : Cfg) (c : Nat) (v ov : Vec) (sl : Bool) : Adds p 0 (copyAssignInPlace cfg c v ov sl : M α Unit) := by
  unfold SvModel.copyAssignInPlace
  exact Adds.ite (Adds.bind0 (C.assignGen _ _ _ _) (fun _ => C.uninitGen _ _ _ _ _))
    (Adds.bind0 (C.assignGen _ _ _ _) (fun _ => C.destroyRange _ _ _ _))

theorem moveAssignInPlace (cfg : Cfg) (c : Nat) (v ov : Vec) (sl : Bool) : Adds p 0 (moveAssignInPlace cfg c v ov sl : M α Unit) := by
  unfold SvModel.moveAssignInPlace
  exact Adds.ite (Adds.bind0 (C.assignGen _ _ _ _) (fun _ => C.uninitializedMove _ _ _ _ _ _ _))
    (Adds.bind0 (C.assignGen _ _ _ _) (fun _ => C.destroyRange _ _ _ _))

theorem moveAllocationPointer (cfg : Cfg) (c o : Nat) : Adds p 0 (moveAllocationPointer cfg c o : M α Unit) := by
  unfold SvModel.moveAllocationPointer
  exact Adds.bind0 (Adds.getV _) (fun _ => Adds.bind0 (C.resetData _ _ _ _ _) (fun _ => Adds.setDefault _))

omit C in
theorem swapSize (c o : Nat) : Adds p 0 (swapSize c o : M α Unit) := by
  unfold SvModel.swapSize
  exact Adds.bind0 (Adds.getV _) (fun _ => Adds.bind0 (Adds.getV _) (fun _ => Adds.bind0 (Adds.setSize _ _) (fun _ => Adds.setSize _ _)))

omit C in
theorem swapAllocation (c o : Nat) : Adds p 0 (swapAllocation c o : M α Unit) := by
  unfold SvModel.swapAllocation
  exact Adds.bind0 (Adds.getV _) (fun _ => Adds.bind0 (Adds.getV _) (fun _ => Adds.bind0 (Adds.setData _ _ _ _) (fun _ => Adds.setData _ _ _ _)))

theorem swapElements (cfg : Cfg) (c o : Nat) : Adds p 0 (swapElements cfg c o : M α Unit) := by
  unfold SvModel.swapElements
  exact Adds.bind0 (Adds.getV _) (fun _ => Adds.bind0 (Adds.getV _) (fun _ =>
    Adds.bind0 (C.swapRanges _ _ _ _ _ _) (fun _ => Adds.bind0 (C.uninitializedMove _ _ _ _ _ _ _) (fun _ =>
      Adds.bind0 (C.destroyRange _ _ _ _) (fun _ => Counts.swapSize _ _)))))

theorem checkedAllocate (cfg : Cfg) (a n : Nat) : Adds p g (checkedAllocate cfg a n : M α Nat) := by
  unfold SvModel.checkedAllocate
  exact Adds.ite (Adds.throwE _) (C.allocate _ _ _)

theorem allocateBy (cfg : Cfg) (ch : Bool) (a n : Nat) : Adds p g (allocateBy cfg ch a n : M α Nat) := by
  unfold SvModel.allocateBy
  exact Adds.ite (C.checkedAllocate _ _ _) (C.allocate _ _ _)

omit C in
theorem calcNewCapacity (cfg : Cfg) (ch : Bool) (v : Vec) (req : Nat) : Adds p 0 (calcNewCapacity cfg ch v req : M α Nat) := by
  unfold SvModel.calcNewCapacity checkedCalcNewCapacity
  refine Adds.ite ?_ (Adds.pure _)
  split
  · exact Adds.throwE _
  · exact Adds.pure _

theorem emplaceIntoReallocationEnd (cfg : Cfg) (c : Nat) (s : Src α) : Adds p g (emplaceIntoReallocationEnd cfg c s) := by
  unfold SvModel.emplaceIntoReallocationEnd emplaceReallocEndTry
  refine Adds.bind0 (Adds.getV _) (fun v => Adds.ite (Adds.throwE _) ?_)
  refine Adds.bindL (C.allocate _ _ _) (fun nb => Adds.bind0 ?_ (fun _ => Adds.bind0 (C.resetData _ _ _ _ _) (fun _ => Adds.pure _)))
  exact C.orGiveBack (Adds.bind0 (C.constructSrc _ _ _ _) (fun _ =>
      Adds.tryCatchL (C.uninitializedMove _ _ _ _ _ _ _) (fun e => Adds.bind0 (C.destroyAt _ _ _) (fun _ => Adds.throwE e)))) _ _ _

theorem appendElement (cfg : Cfg) (c : Nat) (s : Src α) : Adds p g (appendElement cfg c s) := by
  unfold SvModel.appendElement
  exact Adds.bind0 (Adds.getV _) (fun v => Adds.ite ((C.emplaceIntoCurrentEnd _ _ _).mono (Nat.zero_le _)) (C.emplaceIntoReallocationEnd _ _ _))

/-- the tail shared by the reallocating paths -/
theorem relocateOrAbort {δ : Type} (cfg : Cfg) (strong : Bool) (sb si n db di a nb ncap f cnt : Nat) (rest : M α δ) (hr : Adds p 0 rest) :
    Adds p 0 (tryCatch (SvModel.uninitializedMove cfg strong sb si n db di)
      (fun e => SvModel.destroyRange cfg nb f cnt >>= fun _ => SvModel.deallocate a nb ncap >>= fun _ => throwE e) >>= fun _ => rest) :=
  Adds.bind0 (Adds.tryCatchL (C.uninitializedMove _ _ _ _ _ _ _)
    (fun e => Adds.bind0 (C.destroyRange _ _ _ _) (fun _ => Adds.bind0 (C.deallocate _ _ _) (fun _ => Adds.throwE e)))) (fun _ => hr)

theorem appendRealloc (cfg : Cfg) (c : Nat) (strong : Bool) (srcs : List (Src α)) : Adds p g (appendRealloc cfg c strong srcs) := by
  unfold SvModel.appendRealloc
  refine Adds.bind0 (Adds.getV _) (fun v => Adds.bindL (C.allocate _ _ _) (fun nb => ?_))
  refine Adds.bind0 (C.orGiveBack (C.uninitGen _ _ _ _ _) _ _ _) (fun _ => ?_)
  exact C.relocateOrAbort _ _ _ _ _ _ _ _ _ _ _ _ _ (Adds.bind0 (C.resetData _ _ _ _ _) (fun _ => Adds.pure _))

theorem insertRealloc (cfg : Cfg) (c pos : Nat) (srcs : List (Src α)) : Adds p g (insertRealloc cfg c pos srcs) := by
  unfold SvModel.insertRealloc
  refine Adds.bind0 (Adds.getV _) (fun v => Adds.bindL (C.allocate _ _ _) (fun nb => ?_))
  refine Adds.bind0 (C.orGiveBack (C.uninitGen _ _ _ _ _) _ _ _) (fun _ => ?_)
  refine C.relocateOrAbort _ _ _ _ _ _ _ _ _ _ _ _ _ ?_
  exact C.relocateOrAbort _ _ _ _ _ _ _ _ _ _ _ _ _ (Adds.bind0 (C.resetData _ _ _ _ _) (fun _ => Adds.pure _))

/-- the in-place branch of `append_copies` / `append_range` -/
theorem appendInPlace {δ : Type} (cfg : Cfg) (c b f n : Nat) (srcs : List (Src α)) (r : δ) :
    Adds p 0 (SvModel.uninitGen cfg b f 0 srcs >>= fun _ => SvModel.setSize c n >>= fun _ => (Pure.pure r : M α δ)) :=
  Adds.bind0 (C.uninitGen _ _ _ _ _) (fun _ => Adds.bind0 (Adds.setSize _ _) (fun _ => Adds.pure _))

theorem appendCopies (cfg : Cfg) (c count : Nat) (s : Src α) : Adds p g (appendCopies cfg c count s) := by
  unfold SvModel.appendCopies
  exact Adds.bind0 (Adds.getV _) (fun v => Adds.ite (Adds.ite (Adds.throwE _) (C.appendRealloc _ _ _ _)) ((C.appendInPlace _ _ _ _ _ _ _).mono (Nat.zero_le _)))

theorem appendRangeFwd (cfg : Cfg) (c : Nat) (strong : Bool) (srcs : List (Src α)) : Adds p g (appendRangeFwd cfg c strong srcs) := by
  unfold SvModel.appendRangeFwd
  exact Adds.bind0 (Adds.getV _) (fun v => Adds.ite (Adds.ite (Adds.throwE _) (C.appendRealloc _ _ _ _)) ((C.appendInPlace _ _ _ _ _ _ _).mono (Nat.zero_le _)))

theorem emplaceIntoReallocation (cfg : Cfg) (c pos : Nat) (s : Src α) : Adds p g (emplaceIntoReallocation cfg c pos s) := by
  unfold SvModel.emplaceIntoReallocation
  exact Adds.bind0 (Adds.getV _) (fun v => Adds.ite (C.emplaceIntoReallocationEnd _ _ _)
    (Adds.ite (Adds.throwE _) (C.insertRealloc _ _ _ _)))

theorem emplaceAt (cfg : Cfg) (c pos : Nat) (s : Src α) (rv : Bool) : Adds p g (emplaceAt cfg c pos s rv) := by
  unfold SvModel.emplaceAt
  exact Adds.bind0 (Adds.getV _) (fun v => Adds.ite
    (Adds.ite ((C.emplaceIntoCurrentRv _ _ _ _).mono (Nat.zero_le _)) ((C.emplaceIntoCurrent _ _ _ _).mono (Nat.zero_le _)))
    (C.emplaceIntoReallocation _ _ _ _))

/-- the two in-place branches of `insert_copies` -/
theorem insertCopiesInPlace (cfg : Cfg) (c pos count d sz : Nat) (s : Src α) (q : Prop) [Decidable q] :
    Adds p 0 (if q then
        SvModel.insertInPlaceLarge cfg c pos (List.replicate (count - (sz - pos)) s) (some s)
          (fun t => SvModel.assignGen cfg d pos (List.replicate (sz - pos) (.copyOf t 0))) >>= fun _ => (Pure.pure pos : M α Nat)
      else
        SvModel.allocTemp >>= fun t =>
        SvModel.constructSrc cfg t 0 s >>= fun _ =>
        finally_ (SvModel.insertInPlaceSmall cfg c pos count (SvModel.assignGen cfg d pos (List.replicate count (.copyOf t 0))))
          (SvModel.destroyAt cfg t 0) >>= fun _ => Pure.pure pos) := by
  refine Adds.ite ?_ ?_
  · exact Adds.bind0 (C.insertInPlaceLarge _ _ _ _ _ _ (fun _ => C.assignGen _ _ _ _)) (fun _ => Adds.pure _)
  · exact Adds.bind0 Adds.allocTemp (fun t => Adds.bind0 (C.constructSrc _ _ _ _) (fun _ =>
      Adds.bind0 (Adds.finally (C.insertInPlaceSmall _ _ _ _ _ (C.assignGen _ _ _ _)) (C.destroyAt _ _ _)) (fun _ => Adds.pure _)))

theorem insertCopies (cfg : Cfg) (c pos count : Nat) (s : Src α) : Adds p g (insertCopies cfg c pos count s) := by
  unfold SvModel.insertCopies
  exact Adds.bind0 (Adds.getV _) (fun v => Adds.ite (Adds.pure _) (Adds.ite
    (Adds.ite (C.appendElement _ _ _) (C.appendCopies _ _ _ _)) (Adds.ite
    (Adds.ite (Adds.throwE _) (C.insertRealloc _ _ _ _)) ((C.insertCopiesInPlace _ _ _ _ _ _ _ _).mono (Nat.zero_le _)))))

/-- the two in-place branches of `insert_range_helper` -/
theorem insertRangeInPlace (cfg : Cfg) (c pos d sz : Nat) (srcs : List (Src α)) (q : Prop) [Decidable q] :
    Adds p 0 (if q then
        SvModel.insertInPlaceLarge cfg c pos (srcs.drop (sz - pos)) Option.none
          (fun _ => SvModel.assignGen cfg d pos (srcs.take (sz - pos))) >>= fun _ => (Pure.pure pos : M α Nat)
      else
        SvModel.insertInPlaceSmall cfg c pos srcs.length (SvModel.assignGen cfg d pos srcs) >>= fun _ => Pure.pure pos) := by
  refine Adds.ite ?_ ?_
  · exact Adds.bind0 (C.insertInPlaceLarge _ _ _ _ _ _ (fun _ => C.assignGen _ _ _ _)) (fun _ => Adds.pure _)
  · exact Adds.bind0 (C.insertInPlaceSmall _ _ _ _ _ (C.assignGen _ _ _ _)) (fun _ => Adds.pure _)

theorem insertRangeHelper (cfg : Cfg) (c pos : Nat) (srcs : List (Src α)) : Adds p g (insertRangeHelper cfg c pos srcs) := by
  unfold SvModel.insertRangeHelper
  exact Adds.bind0 (Adds.getV _) (fun v => Adds.ite (Adds.ite (Adds.throwE _) (C.insertRealloc _ _ _ _))
    ((C.insertRangeInPlace _ _ _ _ _ _ _).mono (Nat.zero_le _)))

theorem insertRangeFwd (cfg : Cfg) (c pos : Nat) (srcs : List (Src α)) : Adds p g (insertRangeFwd cfg c pos srcs) := by
  unfold SvModel.insertRangeFwd
  refine Adds.bind0 (Adds.getV _) (fun v => Adds.ite (C.insertRangeHelper _ _ _ _) (Adds.ite ?_ (C.appendRangeFwd _ _ _ _)))
  cases srcs with
  | nil => exact Adds.pure _
  | cons s _ => exact C.appendElement _ _ _

theorem requestCapacity (cfg : Cfg) (c request : Nat) : Adds p g (requestCapacity cfg c request : M α Unit) := by
  unfold SvModel.requestCapacity
  refine Adds.bind0 (Adds.getV _) (fun v => Adds.ite (Adds.pure _) ?_)
  refine Adds.bind0 (Counts.calcNewCapacity _ _ _ _) (fun ncap => Adds.bindL (C.allocateBy _ _ _ _) (fun nb => ?_))
  exact Adds.bind0 (C.orGiveBack (C.uninitializedMove _ _ _ _ _ _ _) _ _ _)
    (fun _ => Adds.bind0 (C.wipe _ _) (fun _ => Adds.bind0 (Adds.setDataPtr _ _) (fun _ => Adds.setCapacity _ _)))

theorem shrinkToSize (cfg : Cfg) (c : Nat) : Adds p g (shrinkToSize cfg c : M α Unit) := by
  unfold SvModel.shrinkToSize
  refine Adds.bind0 (Adds.getV _) (fun v => Adds.ite (Adds.pure _) ?_)
  refine Adds.bindL (Adds.ite (Adds.bindL (C.allocate _ _ _) (fun nb => Adds.pure _)) (Adds.pure _)) (fun p => ?_)
  exact Adds.bind0 (Adds.tryCatchL (C.uninitializedMove _ _ _ _ _ _ _)
      (fun e => Adds.bind0 (Adds.ite (C.deallocate _ _ _) (Adds.pure _)) (fun _ => Adds.throwE e)))
    (fun _ => Adds.bind0 (C.destroyRange _ _ _ _) (fun _ => Adds.bind0 (C.deallocate _ _ _) (fun _ =>
      Adds.bind0 (Adds.setDataPtr _ _) (fun _ => Adds.setCapacity _ _))))

theorem resizeWith (cfg : Cfg) (c newSize : Nat) (s : Src α) : Adds p g (resizeWith cfg c newSize s : M α Unit) := by
  unfold SvModel.resizeWith
  refine Adds.bind0 (Adds.ite (C.eraseAll _ _) (Adds.pure _)) (fun _ => Adds.bind0 (Adds.getV _) (fun v => Adds.ite
    (Adds.ite (Adds.throwE _) (Adds.bindL (C.appendRealloc _ _ _ _) (fun _ => Adds.pure _)))
    (Adds.ite ?_ ((C.eraseToEnd _ _ _).mono (Nat.zero_le _)))))
  exact Adds.bind0 (C.uninitGen _ _ _ _ _) (fun _ => Adds.setSize _ _)

/-- the two in-place branches shared by assign (n, x) and assign (first, last) -/
theorem assignInPlace (cfg : Cfg) (c d sz n : Nat) (all pre post : List (Src α)) (q : Prop) [Decidable q] :
    Adds p 0 (if q then
        SvModel.assignGen cfg d 0 pre >>= fun _ => SvModel.uninitGen cfg d sz 0 post >>= fun _ => SvModel.setSize c n
      else
        SvModel.assignGen cfg d 0 all >>= fun _ => SvModel.eraseRange cfg c n sz >>= fun _ => (Pure.pure () : M α Unit)) := by
  refine Adds.ite ?_ ?_
  · exact Adds.bind0 (C.assignGen _ _ _ _) (fun _ => Adds.bind0 (C.uninitGen _ _ _ _ _) (fun _ => Adds.setSize _ _))
  · exact Adds.bind0 (C.assignGen _ _ _ _) (fun _ => Adds.bind0 (C.eraseRange _ _ _ _) (fun _ => Adds.pure _))

/-- the reallocating branch shared by assign (n, x) and assign (first, last) -/
theorem assignRealloc (cfg : Cfg) (c : Nat) (chk1 chk2 : Bool) (v : Vec) (n : Nat) (all : List (Src α)) :
    Adds p g (SvModel.calcNewCapacity cfg chk1 v n >>= fun ncap =>
        SvModel.allocateBy cfg chk2 v.alloc ncap >>= fun nb =>
        tryCatch (SvModel.uninitGen cfg nb 0 0 all) (fun ex => SvModel.deallocate v.alloc nb ncap >>= fun _ => throwE ex) >>= fun _ =>
        SvModel.resetData cfg c nb ncap n) :=
  Adds.bind0 (Counts.calcNewCapacity _ _ _ _) (fun _ => Adds.bindL (C.allocateBy _ _ _ _) (fun _ =>
    Adds.bind0 (C.orGiveBack (C.uninitGen _ _ _ _ _) _ _ _)
      (fun _ => C.resetData _ _ _ _ _)))

/-- the shape of the reallocating assignments -/
theorem buildThen {δ : Type} (cfg : Cfg) (a n : Nat) (fill : Nat → M α Unit) (fin : Nat → M α δ)
    (hfill : ∀ nb, Adds p 0 (fill nb)) (hfin : ∀ nb, Adds p 0 (fin nb)) :
    Adds p g (SvModel.allocate cfg a n >>= fun nb =>
      tryCatch (fill nb) (fun ex => SvModel.deallocate a nb n >>= fun _ => throwE ex) >>= fun _ => fin nb) :=
  Adds.bindL (C.allocate _ _ _) (fun nb => Adds.bind0 (C.orGiveBack (hfill nb) _ _ _) (fun _ => hfin nb))

/-- the shape of the allocating constructors -/
theorem buildInto (c a n sz : Nat) (alloc : M α Nat) (halloc : Adds p g alloc) (fill : Nat → M α Unit)
    (hfill : ∀ nb, Adds p 0 (fill nb)) :
    Adds p g (alloc >>= fun nb => SvModel.setDataPtr c nb >>= fun _ => SvModel.setCapacity c n >>= fun _ =>
      tryCatch (fill nb) (fun ex => SvModel.deallocate a nb n >>= fun _ => throwE ex) >>= fun _ => SvModel.setSize c sz) :=
  Adds.bindL halloc (fun nb => Adds.bind0 (Adds.setDataPtr _ _) (fun _ => Adds.bind0 (Adds.setCapacity _ _) (fun _ =>
    Adds.bind0 (C.orGiveBack (hfill nb) _ _ _)
      (fun _ => Adds.setSize _ _))))

theorem backToInline (cfg : Cfg) (c a d sz cap inl N : Nat) (m : M α Unit) (hm : Adds p 0 m) :
    Adds p 0 (m >>= fun _ => SvModel.destroyRange cfg d 0 sz >>= fun _ => SvModel.deallocate a d cap >>= fun _ =>
      SvModel.setDataPtr c inl >>= fun _ => SvModel.setCapacity c N) :=
  Adds.bind0 hm (fun _ => Adds.bind0 (C.destroyRange _ _ _ _) (fun _ => Adds.bind0 (C.deallocate _ _ _) (fun _ =>
    Adds.bind0 (Adds.setDataPtr _ _) (fun _ => Adds.setCapacity _ _))))

theorem moveInitialize (cfg : Cfg) (c o : Nat) : Adds p g (moveInitialize cfg c o : M α Unit) := by
  unfold SvModel.moveInitialize
  refine Adds.bind0 (Adds.getV _) (fun v => Adds.bind0 (Adds.getV _) (fun ov => ?_))
  have hsteal : Adds p g (setData c ov.data ov.cap ov.size >>= fun _ => setDefault o : M α Unit) :=
    Adds.bind0 (Adds.setData _ _ _ _) (fun _ => Adds.setDefault _)
  have hinl : Adds p g (setToInlineStorage c >>= fun _ =>
      SvModel.uninitializedMove cfg false ov.data 0 ov.size v.inl 0 >>= fun _ => setSize c ov.size : M α Unit) :=
    Adds.bind0 (Adds.setToInlineStorage _) (fun _ => Adds.bind0 (C.uninitializedMove _ _ _ _ _ _ _) (fun _ => Adds.setSize _ _))
  exact Adds.ite hsteal (Adds.ite (Adds.ite hsteal hinl) (Adds.ite hsteal (Adds.ite
    (C.buildInto _ _ _ _ _ (C.allocate _ _ _) _ (fun _ => C.uninitializedMove _ _ _ _ _ _ _)) hinl)))

theorem assignWithCopies (cfg : Cfg) (c count : Nat) (s : Src α) : Adds p g (assignWithCopies cfg c count s : M α Unit) := by
  unfold SvModel.assignWithCopies
  exact Adds.bind0 (Adds.getV _) (fun v => Adds.ite (C.assignRealloc _ _ _ _ _ _ _) ((C.assignInPlace _ _ _ _ _ _ _ _ _).mono (Nat.zero_le _)))

theorem assignWithRangeFwd (cfg : Cfg) (c : Nat) (srcs : List (Src α)) : Adds p g (assignWithRangeFwd cfg c srcs : M α Unit) := by
  unfold SvModel.assignWithRangeFwd
  exact Adds.bind0 (Adds.getV _) (fun v => Adds.ite (C.assignRealloc _ _ _ _ _ _ _) ((C.assignInPlace _ _ _ _ _ _ _ _ _).mono (Nat.zero_le _)))

end Counts
end SvModel
