/-
In-place insertion machinery: `shift_into_uninitialized`, the roll-back of a failed fill,
and the state predicate `MidIns` ("container `c` is in the middle of an in-place insertion: only the slots [lo, hi) of
its buffer may differ, the first n' slots are live, the header says size = n'").  Every intermediate and every
exceptional outcome of the in-place insert paths is a `MidIns`, and a `MidIns` re-establishes the invariants
(`MidIns.basic`) — that is the basic guarantee of the insert family.

The in-place paths are sequences of a few building blocks, each with a `MidIns`-level specification: relocate a range
past the end and grow (`relocGrow_sat`), destroy the end and shrink (`truncate_mid_sat`), assign with roll-back
(`fillOrRollback_sat`), and the scope of a stack temporary (`withTemp_sat`, `sat_finally_tmp`).
-/
import SvModel.Proofs.Insert

namespace SvModel
open Gen
variable {α β γ δ : Type}

structure MidIns (w w' : World α) (c lo hi n' : Nat) : Prop where
  ctl0 : Ctl0 w w'
  hdr  : w'.hdr = upd w.hdr c { w.hdr c with size := n' }
  objs : ∀ i, i < n' → IsObj w' (w.hdr c).data i
  raws : ∀ i, n' ≤ i → i < hi → IsRaw w' (w.hdr c).data i
  rest : ∀ (b i : Nat), ¬ (b = (w.hdr c).data ∧ lo ≤ i ∧ i < hi) → (b % 2 = 1 ∨ b < 5) → (w'.mem b)[i]? = (w.mem b)[i]?

theorem MidIns.basic {cfg : Cfg} {w w' : World α} {c lo hi n' : Nat} (h : MidIns w w' c lo hi n') (hv : VecOK cfg w c) (hl : Ledger w)
    (hn : n' ≤ hi) (hhi : hi ≤ (w.hdr c).cap) (hlo : (w.hdr c).size ≤ hi) : Basic cfg w w' c := by
  have hcls := hv.data_kind hl
  obtain ⟨h1, h2, h3⟩ := inplace_ok cfg hv hl h.ctl0 h.hdr (by omega) h.objs
    (fun i a b => by
      by_cases hi : i < hi
      · exact h.raws i a hi
      · exact isRaw_of_eq (h.rest _ i (by intro ⟨_, _, x⟩; exact hi x) hcls) (hv.raws i (by omega) b))
    (fun b i hb hc => h.rest b i (by intro ⟨x, _, _⟩; exact hb x) hc)
  exact ⟨h1, h2, h.ctl0.ub, h3⟩

theorem MidIns.hdr_c {w w' : World α} {c lo hi n' : Nat} (h : MidIns w w' c lo hi n') :
    w'.hdr c = { w.hdr c with size := n' } := by rw [h.hdr]; simp

theorem MidIns.data_eq {w w' : World α} {c lo hi n' : Nat} (h : MidIns w w' c lo hi n') : (w'.hdr c).data = (w.hdr c).data := by
  rw [h.hdr_c]

theorem MidIns.size_eq {w w' : World α} {c lo hi n' : Nat} (h : MidIns w w' c lo hi n') : (w'.hdr c).size = n' := by
  rw [h.hdr_c]

theorem MidIns.pre {w w' : World α} {c lo hi n' i : Nat} (h : MidIns w w' c lo hi n')
    (hcls : (w.hdr c).data % 2 = 1 ∨ (w.hdr c).data < 5) (hi' : i < lo) :
    (w'.mem (w.hdr c).data)[i]? = (w.mem (w.hdr c).data)[i]? :=
  h.rest _ i (fun ⟨_, a, _⟩ => Nat.not_le_of_lt hi' a) hcls

theorem MidIns.start {cfg : Cfg} {w : World α} {c : Nat} (hv : VecOK cfg w c) (lo hi : Nat) (hhi : hi ≤ (w.hdr c).cap) :
    MidIns w w c lo hi (w.hdr c).size :=
  ⟨Ctl0.refl w, (upd_self w.hdr c).symm, hv.objs, fun i a b => hv.raws i a (by omega), fun _ _ _ _ => rfl⟩

/-- a step that keeps the control state and every slot of the container-class blocks (odd ids and ids < 5) -/
theorem MidIns.step_tmp {w wa wb : World α} {c lo hi n' : Nat} (h : MidIns w wa c lo hi n') (hc : Ctl0 wa wb) (hh : wb.hdr = wa.hdr)
    (hcls : (w.hdr c).data % 2 = 1 ∨ (w.hdr c).data < 5)
    (hs : ∀ (b i : Nat), (b % 2 = 1 ∨ b < 5) → (wb.mem b)[i]? = (wa.mem b)[i]?) : MidIns w wb c lo hi n' :=
  ⟨h.ctl0.trans hc, by rw [hh]; exact h.hdr, fun i hi => isObj_of_eq (hs _ i hcls) (h.objs i hi),
   fun i a b => isRaw_of_eq (hs _ i hcls) (h.raws i a b), fun b i hne hc' => by rw [hs b i hc']; exact h.rest b i hne hc'⟩

theorem MidIns.step_data {w wa wb : World α} {c lo hi n' : Nat} (h : MidIns w wa c lo hi n') (hc : Ctl0 wa wb) (hh : wb.hdr = wa.hdr)
    (hobj : ∀ i, i < n' → IsObj wb (w.hdr c).data i) (hraw : ∀ i, n' ≤ i → i < hi → IsRaw wb (w.hdr c).data i)
    (hs : ∀ (b i : Nat), ¬ (b = (w.hdr c).data ∧ lo ≤ i ∧ i < hi) → (b % 2 = 1 ∨ b < 5) → (wb.mem b)[i]? = (wa.mem b)[i]?) :
    MidIns w wb c lo hi n' :=
  ⟨h.ctl0.trans hc, by rw [hh]; exact h.hdr, hobj, hraw, fun b i hne hc' => by rw [hs b i hne hc']; exact h.rest b i hne hc'⟩

theorem MidIns.setSize {w wa wb : World α} {c lo hi n' m : Nat} (h : MidIns w wa c lo hi n') (hc : Ctl wa wb)
    (hobj : ∀ i, i < m → IsObj wb (w.hdr c).data i) (hraw : ∀ i, m ≤ i → i < hi → IsRaw wb (w.hdr c).data i)
    (hs : SameOut wa wb (Rng (w.hdr c).data lo hi)) :
    MidIns w { wb with hdr := upd wb.hdr c { wb.hdr c with size := m } } c lo hi m :=
  ⟨h.ctl0.trans (hc.to0.with_hdr _), by show upd wb.hdr c _ = _; rw [hc.hdr, h.hdr, upd_upd, upd_same], hobj, hraw,
   fun b i hne hc' => (hs b i hne).trans (h.rest b i hne hc')⟩

theorem MidIns.touched {w wa wb : World α} {c lo hi n' : Nat} {P : Nat → Nat → Prop} (h : MidIns w wa c lo hi n')
    (ht : Touched wa wb P) (hn : n' ≤ hi) (hP : ∀ b i, P b i → Rng (w.hdr c).data lo n' b i) : MidIns w wb c lo hi n' :=
  h.step_data ht.ctl.to0 ht.ctl.hdr (fun i hi => ht.isObj (h.objs i hi))
    (fun i a b => isRaw_of_eq (ht.same _ i (fun hp => Nat.not_le_of_lt (hP _ _ hp).2.2 a)) (h.raws i a b))
    (fun b i hne _ => ht.same b i (fun hp => hne ⟨(hP _ _ hp).1, (hP _ _ hp).2.1, Nat.lt_of_lt_of_le (hP _ _ hp).2.2 hn⟩))

theorem MidIns.tmp {w wa wb : World α} {c lo hi n' t : Nat} (h : MidIns w wa c lo hi n') (hc : Ctl wa wb)
    (hcls : (w.hdr c).data % 2 = 1 ∨ (w.hdr c).data < 5) (ht : ¬ (t % 2 = 1 ∨ t < 5))
    (hs : ∀ (b i : Nat), b ≠ t → (wb.mem b)[i]? = (wa.mem b)[i]?) : MidIns w wb c lo hi n' :=
  h.step_tmp hc.to0 hc.hdr hcls (fun b i hb => hs b i (fun e => ht (e ▸ hb)))

/-- the insertion stayed in its buffer: same block, same capacity, nothing allocated -/
def InsKept (w w' : World α) (c : Nat) : Prop :=
  (w'.hdr c).data = (w.hdr c).data ∧ (w'.hdr c).cap = (w.hdr c).cap ∧ w'.live = w.live ∧ w'.next = w.next

/-- what a failed in-place insertion guarantees: the basic guarantee, and it stayed in its buffer -/
def InsFail (cfg : Cfg) (w w' : World α) (c : Nat) : Prop :=
  Basic cfg w w' c ∧ InsKept w w' c

/-- what every failed insertion guarantees: the basic guarantee, the same buffer, nothing leaked.  This is `InsFail`
    without `next = next`: a failed reallocation has allocated a block and given it back -/
def InsBasic (cfg : Cfg) (w w' : World α) (c : Nat) : Prop :=
  Basic cfg w w' c ∧ (w'.hdr c).data = (w.hdr c).data ∧ (w'.hdr c).cap = (w.hdr c).cap ∧ w'.live = w.live

theorem InsFail.insBasic {cfg : Cfg} {w w' : World α} {c : Nat} (h : InsFail cfg w w' c) : InsBasic cfg w w' c :=
  ⟨h.1, h.2.1, h.2.2.1, h.2.2.2.1⟩

theorem Strong.insBasic {cfg : Cfg} {w w' : World α} {c : Nat} (hs : Strong w w') (hl : Ledger w) (hv : VecOK cfg w c) : InsBasic cfg w w' c :=
  ⟨hs.basic hl hv, by rw [hs.hdr], by rw [hs.hdr], hs.live⟩

theorem AppendFail.insBasic {cfg : Cfg} {strong : Bool} {w w' : World α} {c : Nat} (h : AppendFail cfg strong w w' c) : InsBasic cfg w w' c :=
  ⟨h.2.1, by rw [h.2.2.1], by rw [h.2.2.1], h.2.2.2⟩

theorem MidIns.kept {w w' : World α} {c lo hi n' : Nat} (h : MidIns w w' c lo hi n') : InsKept w w' c :=
  ⟨by rw [h.hdr_c], by rw [h.hdr_c], h.ctl0.live, h.ctl0.next⟩

theorem MidIns.fail {cfg : Cfg} {w w' : World α} {c lo hi n' : Nat} (h : MidIns w w' c lo hi n') (hv : VecOK cfg w c) (hl : Ledger w)
    (hn : n' ≤ hi) (hhi : hi ≤ (w.hdr c).cap) (hlo : (w.hdr c).size ≤ hi) : InsFail cfg w w' c :=
  ⟨h.basic hv hl hn hhi hlo, h.kept⟩

/-- The callers have `generalize`d size, buffer and count to `n`,
    `d`, `k`: the equations tie these back to the header -/
theorem MidIns.inserted {cfg : Cfg} {w w' : World α} {c pos d n k hi : Nat} {vals : List (Val α)}
    (hm : MidIns w w' c pos hi hi) (hv : VecOK cfg w c) (hl : Ledger w)
    (hn : (w.hdr c).size = n) (hd : (w.hdr c).data = d) (hk : vals.length = k) (hhi : n + k = hi) (hpos : pos ≤ n)
    (hcap : hi ≤ (w.hdr c).cap)
    (hnew : ∀ j (h : j < vals.length), (w'.mem d)[pos + j]? = some (.obj vals[j]))
    (hsuf : ∀ i, pos ≤ i → i < n → (w'.mem d)[i + k]? = (w.mem d)[i]?) :
    Inserted cfg w w' c pos vals ∧ InsKept w w' c := by
  subst hn hd hk hhi
  have hhc := hm.hdr_c
  refine ⟨⟨hm.basic hv hl (Nat.le_refl _) hcap (Nat.le_add_right _ _), fun xs hx => ?_, by rw [hhc], by rw [hhc]⟩, hm.kept⟩
  exact holds_insert_of_slots hx rfl hpos (by rw [hhc]) (by rw [hhc]) (fun i hi => hm.pre (hv.data_kind hl) hi) hnew hsuf

private theorem reloc_frame {w w1 : World α} {d src k n : Nat} (h2 : src + k ≤ n)
    (hsrc : ∀ j, j < k → IsObj w1 d (src + j))
    (hrest : ∀ b i, ¬ (b = d ∧ n ≤ i ∧ i < n + k) → ¬ (b = d ∧ src ≤ i ∧ i < src + k) → (w1.mem b)[i]? = (w.mem b)[i]?)
    (hobj : ∀ i, i < n → IsObj w d i) :
    (∀ i, i < n → IsObj w1 d i) ∧ (∀ i, src + k ≤ i → i < n → (w1.mem d)[i]? = (w.mem d)[i]?) ∧
      SameOut w w1 (Rng d src (n + k)) := by
  have hmid : ∀ i, ¬ (src ≤ i ∧ i < src + k) → i < n → (w1.mem d)[i]? = (w.mem d)[i]? :=
    fun i a b => hrest d i (fun ⟨_, x, _⟩ => Nat.not_le_of_lt b x) (fun ⟨_, x, y⟩ => a ⟨x, y⟩)
  refine ⟨fun i hi => ?_, fun i a b => hmid i (fun ⟨_, x⟩ => Nat.not_le_of_lt x a) b, ?_⟩
  · by_cases h : src ≤ i ∧ i < src + k
    · exact (forall_range (P := fun i => IsObj w1 d i)).mp hsrc i h.1 h.2
    · exact isObj_of_eq (hmid i h hi) (hobj i hi)
  · intro b i hn
    exact hrest b i (fun ⟨a, x, y⟩ => hn ⟨a, by omega, y⟩) (fun ⟨a, x, y⟩ => hn ⟨a, x, by omega⟩)

theorem relocGrow_sat (cfg : Cfg) (c src k : Nat) {w0 w : World α} {d lo hi n : Nat}
    (hm : MidIns w0 w c lo hi n) (hd : (w0.hdr c).data = d) (h1 : lo ≤ src) (h2 : src + k ≤ n) (h3 : n + k ≤ hi) :
    ((uninitializedMove cfg false d src k d n >>= fun _ => setSize c (n + k)) w).sat
      (fun _ w' => MidIns w0 w' c lo hi (n + k) ∧
          (∀ i, src ≤ i → i < src + k → (w'.mem d)[i + (n - src)]? = (w.mem d)[i]?) ∧
          (∀ i, src + k ≤ i → i < n → (w'.mem d)[i]? = (w.mem d)[i]?) ∧ SameOut w w' (Rng d src (n + k)) ∧ Ctl0 w w')
      (fun e w' => e = .elem ∧ MidIns w0 w' c lo hi n ∧ SameOut w w' (Rng d src (n + k)) ∧ Ctl0 w w') := by
  subst hd
  refine sat_bind (uninitializedMove_sat cfg false _ src k _ n w (fun j hj => hm.objs _ (by omega))
    (fun j hj => hm.raws _ (by omega) (by omega))) (fun _ w1 hr => ?_) (fun e w1 ⟨he, hf⟩ => ?_)
  · obtain ⟨hobj1, hmid1, hs1⟩ := reloc_frame h2 hr.src hr.rest hm.objs
    rw [setSize_run]
    refine ⟨hm.setSize hr.ctl (fun i hi => ?_) (fun i a b => isRaw_of_eq (hs1.ge a) (hm.raws i (by omega) b)) (hs1.widen h1 h3),
            fun i a b => ?_, hmid1, hs1,
            hr.ctl.to0.with_hdr _⟩
    · by_cases h : i < n
      · exact hobj1 i h
      · exact isObj_of_eq (hr.dst_at i (by omega) (by omega)) (hm.objs _ (by omega))
    · have := hr.dst (i - src) (by omega)
      rwa [show n + (i - src) = i + (n - src) by omega, show src + (i - src) = i by omega] at this
  · obtain ⟨hobj1, _, hs1⟩ := reloc_frame h2 hf.src hf.rest hm.objs
    refine ⟨he, hm.step_data hf.ctl.to0 hf.ctl.hdr hobj1 (fun i a b => ?_) (fun b i hne _ => hs1.widen h1 h3 b i hne), hs1, hf.ctl.to0⟩
    by_cases h : i < n + k
    · exact (forall_range (P := fun i => IsRaw w1 _ i)).mp hf.dst i a h
    · exact isRaw_of_eq (hs1.ge (by omega)) (hm.raws i a b)

theorem constructGrow_sat (cfg : Cfg) (c : Nat) (srcs : List (Src α)) {w0 w : World α} {d lo hi n : Nat}
    (hm : MidIns w0 w c lo hi n) (hd : (w0.hdr c).data = d) (h1 : lo ≤ n) (h3 : n + srcs.length ≤ hi)
    (hnm : NonMoving cfg srcs) (hlive : ∀ s ∈ srcs, SrcLive w s) :
    ((uninitGen cfg d n 0 srcs >>= fun _ => setSize c (n + srcs.length)) w).sat
      (fun _ w' => MidIns w0 w' c lo hi (n + srcs.length) ∧
          (∀ k (h : k < srcs.length), (w'.mem d)[n + k]? = some (.obj (srcVal w srcs[k]))) ∧
          SameOut w w' (Rng d n (n + srcs.length)) ∧ Ctl0 w w')
      (fun _ w' => MidIns w0 w' c lo hi n ∧ SameOut w w' (Rng d n (n + srcs.length)) ∧ Ctl0 w w') := by
  subst hd
  refine sat_bind (uninitGen_nonmoving_sat cfg _ n srcs 0 w hnm hlive (fun j h => by omega)
    (fun k hk => hm.raws _ (by omega) (by omega))) (fun _ w1 ⟨hc1, hv1, hs1⟩ => ?_) (fun e w1 ⟨_, hc1, hr1, hs1⟩ => ?_)
  · have hs1 : SameOut w w1 (Rng _ n (n + srcs.length)) := hs1
    rw [setSize_run]
    refine ⟨hm.setSize hc1 (fun i hi => ?_) (fun i a b => isRaw_of_eq (hs1.ge a) (hm.raws i (by omega) b)) (hs1.widen h1 h3),
            hv1, hs1, hc1.to0.with_hdr _⟩
    by_cases h : i < n
    · exact isObj_of_eq (hs1.lt h) (hm.objs i h)
    · have := hv1 (i - n) (by omega)
      rw [Nat.add_zero, show n + (i - n) = i by omega] at this
      exact ⟨_, this⟩
  · have hs1 : SameOut w w1 (Rng _ n (n + srcs.length)) := hs1
    refine ⟨hm.step_data hc1.to0 hc1.hdr (fun i hi => isObj_of_eq (hs1.lt hi) (hm.objs i hi)) (fun i a b => ?_)
      (fun b i hne _ => hs1.widen h1 h3 b i hne), hs1, hc1.to0⟩
    by_cases h : i < n + srcs.length
    · exact hr1 i a h
    · exact isRaw_of_eq (hs1.ge (by omega)) (hm.raws i a b)

theorem truncate_mid_sat (cfg : Cfg) (c a k : Nat) {w0 w : World α} {d lo hi S : Nat}
    (hm : MidIns w0 w c lo hi S) (hd : (w0.hdr c).data = d) (hlo : lo ≤ a) (hS : a + k = S) (hhi : S ≤ hi) :
    ((destroyRange cfg d a k >>= fun _ => setSize c a) w).sat
      (fun _ w' => MidIns w0 w' c lo hi a ∧ SameOut w w' (Rng d a S) ∧ Ctl0 w w') (fun _ _ => False) := by
  subst hd hS
  refine sat_bind (destroyRange_sat cfg _ k a w (fun i _ h => hm.objs i h)) (fun _ w1 ⟨hc1, hraw1, hs1⟩ => ?_) (fun _ _ h => h)
  rw [setSize_run]
  refine ⟨hm.setSize hc1 (fun i hi => isObj_of_eq (hs1.lt hi) (hm.objs i (by omega))) (fun i x y => ?_) (hs1.widen hlo hhi),
          hs1, hc1.to0.with_hdr _⟩
  by_cases h : i < a + k
  · exact hraw1 i x h
  · exact isRaw_of_eq (hs1.ge (by omega)) (hm.raws i (by omega) y)

/-- shift_into_uninitialized (pos, k): k ≥ 1 elements are inserted before `pos`, the tail has at least k elements and
    there is room for k more.  On return the tail is shifted by k (values), the header says size + k; a throw (a
    relocating construction or a move assignment) leaves a mid-insertion state of size n or n + k. -/
theorem shiftIntoUninitialized_sat (cfg : Cfg) (c pos k : Nat) {w0 w : World α} {d lo n : Nat}
    (hm : MidIns w0 w c lo (n + k) n) (hd : (w0.hdr c).data = d) (hk : 0 < k) (hpk : pos + k ≤ n) (hlo : lo ≤ pos) :
    (shiftIntoUninitialized cfg c pos k w).sat
      (fun r w' => r = pos + k ∧ MidIns w0 w' c lo (n + k) (n + k) ∧
          (∀ i, pos ≤ i → i < n → (w'.mem d)[i + k]? = (w.mem d)[i]?) ∧ SameOut w w' (Rng d pos (n + k)) ∧ Ctl0 w w')
      (fun e w' => e = .elem ∧ ∃ n', (n' = n ∨ n' = n + k) ∧ MidIns w0 w' c lo (n + k) n' ∧
          SameOut w w' (Rng d pos (n + k)) ∧ Ctl0 w w') := by
  unfold shiftIntoUninitialized
  rw [getV_bind, hm.data_eq, hm.size_eq, hd]
  have hle : pos ≤ n - k := by omega
  refine sat_bind₂ (relocGrow_sat cfg c (n - k) k hm hd (by omega) (by omega) (Nat.le_refl _))
    (fun _ w2 ⟨hm2, hdst2, _, hs2, hc2⟩ => ?_)
    (fun e w2 ⟨he, hm2, hs2, hc2⟩ => ⟨he, n, Or.inl rfl, hm2, hs2.widen hle (Nat.le_refl _), hc2⟩)
  subst hd
  have hobj2 : ∀ j, pos ≤ j → j < pos + (n - k - pos) + k → IsObj w2 (w0.hdr c).data j := fun j _ h => hm2.objs j (by omega)
  have hstep : ∀ w3, Touched w2 w3 (Rng (w0.hdr c).data pos (pos + (n - k - pos) + k)) →
      MidIns w0 w3 c lo (n + k) (n + k) ∧ SameOut w w3 (Rng (w0.hdr c).data pos (n + k)) ∧ Ctl0 w w3 := fun w3 ht =>
    ⟨hm2.touched ht (Nat.le_refl _) (fun b i ⟨x, y, z⟩ => ⟨x, by omega, by omega⟩),
     (hs2.widen hle (Nat.le_refl _)).trans (SameOut.widen ht.same (Nat.le_refl _) (by omega)), hc2.trans ht.ctl.to0⟩
  refine sat_bind (moveBackward_sat cfg _ pos k hk (n - k - pos) w2 hobj2) (fun _ w3 ⟨ht3, hv3⟩ => ?_)
    (fun e w3 ⟨he, ht3⟩ => ⟨he, n + k, Or.inr rfl, hstep w3 ht3⟩)
  obtain ⟨hm3, hs3, hc3⟩ := hstep w3 ht3
  refine ⟨rfl, hm3, fun i h1 h2 => ?_, hs3, hc3⟩
  by_cases h : i < n - k
  · rw [(forall_range (P := fun i => (w3.mem _)[i + k]? = (w2.mem _)[i]?)).mp hv3 i h1 (by omega)]
    exact hs2.lt h
  · have := hdst2 i (by omega) (by omega)
    rw [show i + (n - (n - k)) = i + k by omega] at this
    rw [ht3.same _ (i + k) (fun ⟨_, _, x⟩ => by omega)]
    exact this

/-- if a move assignment of the roll-back itself throws the container keeps size S -/
theorem rollbackShift_sat (cfg : Cfg) (c pos ie drop : Nat) (e : Exc) {w0 w : World α} {d lo hi S : Nat}
    (hm : MidIns w0 w c lo hi S) (hd : (w0.hdr c).data = d) (hlo : lo ≤ pos) (hpos : pos < ie) (hie : ie ≤ S)
    (hdrop : drop ≤ S) (hpd : pos ≤ S - drop) (hhi : S ≤ hi) :
    (rollbackShift cfg c pos ie drop e w : Res (World α) Unit).sat (fun _ _ => False)
      (fun _ w' => ∃ n', (n' = S - drop ∨ n' = S) ∧ MidIns w0 w' c lo hi n' ∧ SameOut w w' (Rng d pos S) ∧ Ctl0 w w') := by
  unfold rollbackShift
  rw [getV_bind, hm.data_eq, hm.size_eq, hd]
  subst hd
  refine sat_bind (moveLeft_sat cfg _ (S - ie) ie pos w hpos (fun j _ h => hm.objs j (by omega))) (fun _ w1 ⟨ht1, _⟩ => ?_)
    (fun e' w1 ⟨_, ht1⟩ => ?_)
  · have hm1 : MidIns w0 w1 c lo hi S := hm.touched ht1 hhi (fun b i ⟨x, y, z⟩ => ⟨x, by omega, by omega⟩)
    have hs1 : SameOut w w1 (Rng _ pos S) := SameOut.widen ht1.same (Nat.le_refl _) (by omega)
    refine sat_bind₂ (truncate_mid_sat cfg c (S - drop) drop hm1 rfl (by omega) (by omega) hhi) (fun _ w2 ⟨hm2, hs2, hc2⟩ => ?_)
      (fun _ _ h => h.elim)
    exact ⟨S - drop, Or.inl rfl, hm2, hs1.trans (hs2.widen hpd (Nat.le_refl _)), ht1.ctl.to0.trans hc2⟩
  · exact ⟨S, Or.inr rfl, hm.touched ht1 hhi (fun b i ⟨x, y, z⟩ => ⟨x, by omega, by omega⟩),
           SameOut.widen ht1.same (Nat.le_refl _) (by omega), ht1.ctl.to0⟩

theorem fillOrRollback_sat (cfg : Cfg) (c pos ie drop : Nat) (srcs : List (Src α)) {w0 w : World α} {d lo hi S : Nat}
    (hm : MidIns w0 w c lo hi S) (hd : (w0.hdr c).data = d) (hlo : lo ≤ pos) (hlen : pos + srcs.length ≤ ie) (hpos : pos < ie)
    (hie : ie ≤ S) (hdrop : drop ≤ S) (hpd : pos ≤ S - drop) (hhi : S ≤ hi)
    (hnm : NonMoving cfg srcs) (hlive : ∀ s ∈ srcs, SrcLive w s) (hout : ∀ s ∈ srcs, ∀ b i, s.loc = some (b, i) → b ≠ d) :
    (tryCatch (assignGen cfg d pos srcs) (fun e => rollbackShift cfg c pos ie drop e) w).sat
      (fun _ w' => MidIns w0 w' c lo hi S ∧
          (∀ j (h : j < srcs.length), (w'.mem d)[pos + j]? = some (.obj (srcVal w srcs[j]))) ∧
          SameOut w w' (Rng d pos (pos + srcs.length)) ∧ Ctl0 w w')
      (fun _ w' => ∃ n', (n' = S - drop ∨ n' = S) ∧ MidIns w0 w' c lo hi n' ∧ SameOut w w' (Rng d pos S) ∧ Ctl0 w w') := by
  have hobj : ∀ k, k < srcs.length → IsObj w d (pos + k) := fun k hk => hd ▸ hm.objs _ (by omega)
  have hout' : ∀ s ∈ srcs, ∀ b i, s.loc = some (b, i) → ¬ (b = d ∧ pos ≤ i ∧ i < pos + srcs.length) :=
    fun s hs b i hl' h => hout s hs b i hl' h.1
  have hin : ∀ b i, Rng d pos (pos + srcs.length) b i → Rng (w0.hdr c).data lo S b i :=
    fun b i ⟨x, y, z⟩ => ⟨x.trans hd.symm, by omega, by omega⟩
  refine sat_tryCatch (Res.sat_mono (Res.sat_and (assignGen_nonmoving_sat cfg d srcs pos w hnm hobj hlive hout')
    (assignGen_touched_nm cfg d srcs pos w hnm hobj hlive hout'))
    (fun _ w1 ⟨⟨hc1, hv1, hs1⟩, ht1⟩ => ⟨hm.touched ht1 hhi hin, hv1, hs1, hc1.to0⟩) (fun _ _ h => h)) (fun e w1 ⟨_, _, ht1⟩ => ?_)
  refine Res.sat_mono (rollbackShift_sat cfg c pos ie drop e (hm.touched ht1 hhi hin) hd hlo hpos hie hdrop hpd hhi)
    (fun _ _ h => h.elim) (fun _ w2 ⟨n', h1, h2, h3, h4⟩ => ⟨n', h1, h2, ?_, ht1.ctl.to0.trans h4⟩)
  exact (SameOut.widen ht1.same (Nat.le_refl _) (by omega)).trans h3

theorem insertInPlaceSmall_sat (cfg : Cfg) (c pos : Nat) (srcs : List (Src α)) {w0 w : World α} {d lo n : Nat}
    (hm : MidIns w0 w c lo (n + srcs.length) n) (hd : (w0.hdr c).data = d)
    (hk : 0 < srcs.length) (hpk : pos + srcs.length ≤ n) (hlo : lo ≤ pos)
    (hnm : NonMoving cfg srcs) (hlive : ∀ s ∈ srcs, SrcLive w s) (hout : ∀ s ∈ srcs, ∀ b i, s.loc = some (b, i) → b ≠ d) :
    (insertInPlaceSmall cfg c pos srcs.length (assignGen cfg d pos srcs) w).sat
      (fun _ w' => MidIns w0 w' c lo (n + srcs.length) (n + srcs.length) ∧
          (∀ j (h : j < srcs.length), (w'.mem d)[pos + j]? = some (.obj (srcVal w srcs[j]))) ∧
          (∀ i, pos ≤ i → i < n → (w'.mem d)[i + srcs.length]? = (w.mem d)[i]?) ∧
          SameOut w w' (Rng d pos (n + srcs.length)) ∧ Ctl0 w w')
      (fun _ w' => ∃ n', (n' = n ∨ n' = n + srcs.length) ∧ MidIns w0 w' c lo (n + srcs.length) n' ∧
          SameOut w w' (Rng d pos (n + srcs.length)) ∧ Ctl0 w w') := by
  unfold insertInPlaceSmall
  refine sat_bind (shiftIntoUninitialized_sat cfg c pos srcs.length hm hd hk hpk hlo) (fun r w3 ⟨hr, hm3, hv3, hs3, hc3⟩ => ?_)
    (fun e w3 ⟨_, h⟩ => h)
  subst hr
  have hsrc := fun s hs => hs3.src (fun b i hl' h => hout s hs b i hl' h.1) (hlive s hs)
  refine Res.sat_mono (fillOrRollback_sat cfg c pos (pos + srcs.length) srcs.length srcs hm3 hd hlo (Nat.le_refl _) (by omega)
    (by omega) (by omega) (by omega) (Nat.le_refl _) hnm (fun s hs => (hsrc s hs).1) hout) ?_ ?_
  · intro _ w4 ⟨hm4, hv4, hs4, hc4⟩
    refine ⟨hm4, fun j hj => by rw [hv4 j hj, (hsrc _ (List.getElem_mem hj)).2], fun i a b => ?_,
            hs3.trans (hs4.widen (Nat.le_refl _) (by omega)), hc3.trans hc4⟩
    rw [hs4.ge (by omega)]
    exact hv3 i a b
  · intro _ w4 ⟨n', h1, h2, h3, h4⟩
    exact ⟨n', by omega, h2, hs3.trans h3, hc3.trans h4⟩

/-- the block id of a temporary is neither odd nor below 5: it is no container's buffer.  In the id scheme of Basic.lean
    the in-object buffers are 0..3, the null block is 4, heap blocks are the odd ids from 5 and temporaries the even ids
    from 6; hence `b % 2 = 1 ∨ b < 5` for "`b` can be a container's buffer" wherever it appears. -/
theorem tmp_not_cls {t : Nat} (ht : t % 2 = 0 ∧ 6 ≤ t) : ¬ (t % 2 = 1 ∨ t < 5) := by omega

/-- `stack_temporary tmp (s)` beside a mid-insertion state: the temporary `w.ntmp` is a block of its own, so the state and
    every other block are as before when `rest` starts; if constructing the temporary throws nothing has happened -/
theorem withTemp_sat (cfg : Cfg) (s : Src α) {rest : Nat → M α β} {w0 w : World α} {c lo hi n : Nat}
    {Q : β → World α → Prop} {E : Exc → World α → Prop}
    (hm : MidIns w0 w c lo hi n) (hcls : (w0.hdr c).data % 2 = 1 ∨ (w0.hdr c).data < 5) (ht : w.ntmp % 2 = 0 ∧ 6 ≤ w.ntmp)
    (hnm : s.moving cfg = false) (hlive : SrcLive w s) (hloc : ∀ b i, s.loc = some (b, i) → b ≠ w.ntmp)
    (hrest : ∀ w2, MidIns w0 w2 c lo hi n → (w2.mem w.ntmp)[0]? = some (.obj (srcVal w s)) →
        (∀ (b i : Nat), b ≠ w.ntmp → (w2.mem b)[i]? = (w.mem b)[i]?) → (rest w.ntmp w2).sat Q E)
    (hfail : ∀ e w2, MidIns w0 w2 c lo hi n → E e w2) :
    ((allocTemp >>= fun t => constructSrc cfg t 0 s >>= fun _ => rest t) w).sat Q E := by
  have htc := tmp_not_cls ht
  obtain ⟨w1, hrun, hc1, hh1, _, hm1', hraw1⟩ := allocTemp_sat w ht
  rw [hrun]
  have hmem1 : ∀ (b i : Nat), b ≠ w.ntmp → (w1.mem b)[i]? = (w.mem b)[i]? := fun b i hb => by rw [hm1' b hb]
  have hm1 : MidIns w0 w1 c lo hi n := hm.step_tmp hc1 hh1 hcls (fun b i hb => hmem1 b i (fun e => htc (e ▸ hb)))
  have hsrc1 : SrcLive w1 s ∧ srcVal w1 s = srcVal w s :=
    ⟨fun b i hl' => isObj_of_eq (hmem1 b i (hloc b i hl')) (hlive b i hl'),
     srcVal_congr w w1 s (fun b i hl' => hmem1 b i (hloc b i hl'))⟩
  refine sat_bind (constructSrc_sat cfg w.ntmp 0 s w1 hraw1 hsrc1.1) (fun _ w2 hw2 => ?_)
    (fun e w2 ⟨_, hq⟩ => hfail e w2 (hm1.tmp hq.2 hcls htc (fun b i _ => by rw [hq.1])))
  have hsame2 : ∀ (b i : Nat), b ≠ w.ntmp → (w2.mem b)[i]? = (w1.mem b)[i]? :=
    fun b i hb => hw2.same_of_nonmoving hnm hsrc1.1 b i (fun h => hb (congrArg Prod.fst h))
  exact hrest w2 (hm1.tmp hw2.ctl hcls htc hsame2) (by rw [hw2.dst, hsrc1.2])
    (fun b i hb => (hsame2 b i hb).trans (hmem1 b i hb))

/-- the temporary `t` is destroyed on both exits of `body`; what `body` established survives if it does not speak of
    block `t` -/
theorem sat_finally_tmp (cfg : Cfg) {body : M α β} {t : Nat} {w : World α}
    {Q : β → World α → Prop} {E1 E : Exc → World α → Prop}
    (hb : (body w).sat (fun r w' => IsObj w' t 0 ∧ Q r w') (fun e w' => IsObj w' t 0 ∧ E1 e w'))
    (hq : ∀ r w' w'', Q r w' → Ctl w' w'' → (∀ (b i : Nat), b ≠ t → (w''.mem b)[i]? = (w'.mem b)[i]?) → Q r w'')
    (he : ∀ e w' w'', E1 e w' → Ctl w' w'' → (∀ (b i : Nat), b ≠ t → (w''.mem b)[i]? = (w'.mem b)[i]?) → E e w'') :
    (finally_ body (destroyAt cfg t 0) w).sat Q E :=
  sat_finally hb
    (fun r w' ⟨ho, h⟩ => Res.sat_mono (destroyAt_sat cfg t 0 w' ho)
      (fun _ w'' ⟨hc, _, hr⟩ => hq r w' w'' h hc (fun b i hb => hr b i (fun x => hb (congrArg Prod.fst x)))) (fun _ _ x => x))
    (fun e w' ⟨ho, h⟩ => Res.sat_mono (destroyAt_sat cfg t 0 w' ho)
      (fun _ w'' ⟨hc, _, hr⟩ => he e w' w'' h hc (fun b i hb => hr b i (fun x => hb (congrArg Prod.fst x)))) (fun _ _ x => x))

theorem Appended.inserted {cfg : Cfg} {w w' : World α} {c pos : Nat} {vals : List (Val α)} (ha : Appended cfg w w' c vals)
    (hend : pos = (w.hdr c).size) : Inserted cfg w w' c pos vals := by
  refine ⟨ha.basic, ?_, ha.size, ha.alloc⟩
  intro xs hx
  have := ha.holds xs hx
  rw [hend, ← hx.1]
  simpa using this

theorem Appended.kept {cfg : Cfg} {w w' : World α} {c : Nat} {vals : List (Val α)} (ha : Appended cfg w w' c vals)
    (hfit : (w.hdr c).size + vals.length ≤ (w.hdr c).cap) : InsKept w w' c :=
  ⟨(ha.inplace hfit).1, (ha.inplace hfit).2.1, (ha.inplace hfit).2.2.2.1, (ha.inplace hfit).2.2.1⟩

/-- `Pushed … x` is `Appended … [x]` with the fields of `Basic` spelled out -/
theorem Pushed.appended {cfg : Cfg} {w w' : World α} {c : Nat} {x : Val α} (hp : Pushed cfg w w' c x) : Appended cfg w w' c [x] :=
  ⟨⟨hp.vec, hp.led, hp.ub, hp.frame⟩, hp.holds, hp.size, hp.alloc, hp.inplace, hp.grown⟩

theorem Pushed.inserted {cfg : Cfg} {w w' : World α} {c pos : Nat} {x : Val α} (hp : Pushed cfg w w' c x) (hend : pos = (w.hdr c).size) :
    Inserted cfg w w' c pos [x] :=
  hp.appended.inserted hend

theorem Pushed.kept {cfg : Cfg} {w w' : World α} {c : Nat} {x : Val α} (hp : Pushed cfg w w' c x)
    (hroom : (w.hdr c).size < (w.hdr c).cap) : InsKept w w' c :=
  hp.appended.kept hroom

/-- insertion at the end position with room is emplace_into_current_end: a throw can only come from the construction of
    the new element, before anything has happened -/
theorem emplaceIntoCurrentEnd_ins (cfg : Cfg) (c : Nat) (s : Src α) (w : World α)
    (hv : VecOK cfg w c) (hl : Ledger w) (hroom : (w.hdr c).size < (w.hdr c).cap) (ha : ArgOK cfg w c s) :
    (emplaceIntoCurrentEnd cfg c s w).sat
      (fun r w' => r = (w.hdr c).size ∧ Inserted cfg w w' c (w.hdr c).size [srcVal w s] ∧ InsKept w w' c)
      (fun _ w' => InsFail cfg w w' c ∧ Strong w w') :=
  Res.sat_mono (emplaceIntoCurrentEnd_sat cfg c s w hv hl hroom ha) (fun _ _ ⟨hr, hp⟩ => ⟨hr, hp.inserted rfl, hp.kept hroom⟩)
    (fun _ _ ⟨_, hq⟩ => ⟨⟨(Strong.of_quiet hl hq).basic hl hv, by rw [hq.2.hdr], by rw [hq.2.hdr], hq.2.live, hq.2.next⟩,
      Strong.of_quiet hl hq⟩)

/-- emplace_into_current, generic overload: stack temporary, shift by one, move-assign the temporary into place -/
theorem emplaceIntoCurrent_sat (cfg : Cfg) (c pos : Nat) (s : Src α) (w : World α)
    (hv : VecOK cfg w c) (hl : Ledger w) (hroom : (w.hdr c).size < (w.hdr c).cap) (hpos : pos ≤ (w.hdr c).size)
    (ha : ArgOK cfg w c s) :
    (emplaceIntoCurrent cfg c pos s w).sat
      (fun r w' => r = pos ∧ Inserted cfg w w' c pos [srcVal w s] ∧ InsKept w w' c)
      (fun _ w' => InsFail cfg w w' c ∧ (pos = (w.hdr c).size → Strong w w')) := by
  unfold emplaceIntoCurrent
  rw [getV_bind]
  rw [guard_emplaceIntoCurrent1_0_eq]
  by_cases hend : pos = (w.hdr c).size
  · rw [if_pos (decide_eq_true hend)]
    subst hend
    exact Res.sat_mono (emplaceIntoCurrentEnd_ins cfg c s w hv hl hroom ha) (fun _ _ h => h) (fun _ _ h => ⟨h.1, fun _ => h.2⟩)
  rw [if_neg (by simpa using hend)]
  have hcls := hv.data_kind hl
  have htmp := hl.ntmp_ok
  have hm0 := MidIns.start hv pos ((w.hdr c).size + 1) (by omega)
  generalize hn : (w.hdr c).size = n at *
  generalize hdd : (w.hdr c).data = d at *
  have htc := tmp_not_cls htmp
  have htd : w.ntmp ≠ d := fun e => htc (e ▸ hcls)
  have fail : ∀ w' n', n' ≤ n + 1 → MidIns w w' c pos (n + 1) n' → InsFail cfg w w' c ∧ (pos = n → Strong w w') :=
    fun w' n' h hm => ⟨hm.fail hv hl h (by omega) (by omega), fun h => absurd h hend⟩
  have tmpStep : ∀ {wa wb : World α} {n' : Nat}, MidIns w wa c pos (n + 1) n' → Ctl wa wb →
      (∀ (b i : Nat), b ≠ w.ntmp → (wb.mem b)[i]? = (wa.mem b)[i]?) → MidIns w wb c pos (n + 1) n' :=
    fun h hc hs => h.tmp hc (by rw [hdd]; exact hcls) htc hs
  refine withTemp_sat cfg s hm0 (by rw [hdd]; exact hcls) htmp ha.nonmoving ha.live
    (fun b i hl' => by rw [(ha.inside b i hl').1, hdd]; exact htd.symm) (fun w2 hm2 htmp2 hsame2 => ?_)
    (fun e w2 hm2 => fail w2 _ (by omega) hm2)
  clear hcls htmp
  refine sat_bind (sat_finally_tmp cfg (E := fun _ w' => InsFail cfg w w' c ∧ (pos = n → Strong w w'))
    (Q := fun _ w4 => MidIns w w4 c pos (n + 1) (n + 1) ∧ (w4.mem d)[pos]? = some (.obj (srcVal w s)) ∧
      ∀ i, pos ≤ i → i < n → (w4.mem d)[i + 1]? = (w.mem d)[i]?)
    (E1 := fun _ w4 => ∃ n', n' ≤ n + 1 ∧ MidIns w w4 c pos (n + 1) n') ?_
    (fun _ w4 w5 ⟨hm4, hp4, hs4⟩ hc5 hr5 => ⟨tmpStep hm4 hc5 hr5, (hr5 d pos htd.symm).trans hp4,
      fun i a b => (hr5 d _ htd.symm).trans (hs4 i a b)⟩)
    (fun _ w4 w5 ⟨n', hn', hm4⟩ hc5 hr5 => fail w5 n' hn' (tmpStep hm4 hc5 hr5)))
    (fun _ w5 ⟨hm5, hp5, hs5⟩ => ⟨rfl, hm5.inserted (k := 1) hv hl hn hdd rfl rfl hpos (by omega)
      (fun j hj => by obtain rfl : j = 0 := (by simpa using hj); exact hp5) hs5⟩) (fun _ _ h => h)
  refine sat_bind (shiftIntoUninitialized_sat cfg c pos 1 hm2 hdd (by omega) (by omega) (Nat.le_refl _))
    (fun _ w3 ⟨_, hm3, hv3, hs3, _⟩ => ?_)
    (fun e w3 ⟨_, n', hn', hm3, hs3, _⟩ => ⟨isObj_of_eq (hs3.ne htd 0) ⟨_, htmp2⟩, n', by omega, hm3⟩)
  have htmp3 : (w3.mem w.ntmp)[0]? = some (.obj (srcVal w s)) := (hs3.ne htd 0).trans htmp2
  obtain ⟨u, hu⟩ := hm3.objs pos (by omega)
  rw [hdd] at hu
  refine Res.sat_mono (assignSrc_sat cfg d pos (.moveOf w.ntmp 0) w3 u hu (fun b i hl' => by cases hl'; exact ⟨_, htmp3⟩)
    (fun h => htd (congrArg Prod.fst (Option.some.inj h)))) (fun _ w4 hw4 => ?_)
    (fun e w4 ⟨_, hq⟩ => ⟨⟨_, by rw [hq.1]; exact htmp3⟩, n + 1, Nat.le_refl _,
      tmpStep hm3 hq.2 (fun b i _ => by rw [hq.1])⟩)
  have hrest4 : ∀ (b i : Nat), (b, i) ≠ (d, pos) → b ≠ w.ntmp → (w4.mem b)[i]? = (w3.mem b)[i]? :=
    fun b i h1 h2 => hw4.rest b i h1 (fun h => h2 (congrArg Prod.fst (Option.some.inj h)).symm)
  refine ⟨hw4.touched.isObj ⟨_, htmp3⟩, hm3.step_data hw4.ctl.to0 hw4.ctl.hdr (fun i hi => hw4.touched.isObj (hm3.objs i hi))
    (fun i a b => by omega) (fun b i hne hc' => hrest4 b i (fun h => ?_) (fun h => htc (h ▸ hc'))), ?_, fun i h1 h2 => ?_⟩
  · cases h; exact hne ⟨hdd.symm, Nat.le_refl _, by omega⟩
  · rw [hw4.dst, srcVal_moveOf w3 _ _ _ htmp3]
  · rw [hrest4 d (i + 1) (fun h => by injection h with _ h; omega) htd.symm, hv3 i h1 h2, hsame2 d i htd.symm]

theorem Cfg.tMove_of_nothrowMove (cfg : Cfg) (h : cfg.policy.nothrowMove = true) : cfg.tMove = false := by
  unfold Cfg.policy at h
  unfold Cfg.tMove
  simp only [Bool.or_eq_true, Bool.not_eq_true'] at h
  cases ht : cfg.trivial
  · simp [ht] at h; simp [h]
  · simp

/-- emplace_into_current (ptr, value_ty&&), selected for nothrow-move-constructible types: shift by one, destroy the
    moved-from element at `pos`, construct the new element in its place (which cannot throw) -/
theorem emplaceIntoCurrentRv_sat (cfg : Cfg) (c pos : Nat) (a : α) (w : World α)
    (hv : VecOK cfg w c) (hl : Ledger w) (hroom : (w.hdr c).size < (w.hdr c).cap) (hpos : pos ≤ (w.hdr c).size)
    (hnt : cfg.policy.nothrowMove = true) :
    (emplaceIntoCurrentRv cfg c pos (.extMove a) w).sat
      (fun r w' => r = pos ∧ Inserted cfg w w' c pos [.val a] ∧ InsKept w w' c)
      (fun _ w' => InsFail cfg w w' c ∧ (pos = (w.hdr c).size → Strong w w')) := by
  unfold emplaceIntoCurrentRv
  rw [getV_bind]
  rw [guard_emplaceIntoCurrent0_0_eq]
  by_cases hend : pos = (w.hdr c).size
  · rw [if_pos (decide_eq_true hend)]
    subst hend
    exact Res.sat_mono (emplaceIntoCurrentEnd_ins cfg c _ w hv hl hroom ⟨rfl, fun _ _ h => (by cases h), fun _ _ h => (by cases h)⟩)
      (fun _ _ h => h) (fun _ _ h => ⟨h.1, fun _ => h.2⟩)
  rw [if_neg (by simpa using hend)]
  have hm0 := MidIns.start hv pos ((w.hdr c).size + 1) (by omega)
  generalize hn : (w.hdr c).size = n at *
  generalize hdd : (w.hdr c).data = d at *
  refine sat_bind (shiftIntoUninitialized_sat cfg c pos 1 hm0 hdd (by omega) (by omega) (Nat.le_refl _))
    (fun _ w3 ⟨_, hm3, hv3, hs3, _⟩ => ?_)
    (fun e w3 ⟨_, n', hn', hm3, _⟩ => ⟨hm3.fail hv hl (by omega) (by omega) (by omega), fun h => absurd h hend⟩)
  have hobj3 := hm3.objs pos (by omega)
  rw [hdd] at hobj3
  refine sat_bind (destroyAt_sat cfg d pos w3 hobj3) (fun _ w4 ⟨hc4, hraw4, hrest4⟩ => ?_) (fun _ _ h => h.elim)
  refine sat_bind (constructSrc_sat cfg d pos (.extMove a) w4 hraw4 (fun _ _ h => by cases h)) (fun _ w5 hw5 => ?_) ?_
  · have hslot : ∀ (b i : Nat), (b, i) ≠ (d, pos) → (w5.mem b)[i]? = (w3.mem b)[i]? :=
      fun b i hne => (hw5.same_of_nonmoving rfl (fun _ _ h => by cases h) b i hne).trans (hrest4 b i hne)
    have hm5 : MidIns w w5 c pos (n + 1) (n + 1) := by
      refine hm3.step_data (hc4.to0.trans hw5.ctl.to0) (hw5.ctl.hdr.trans hc4.hdr) (fun i hi => ?_) (fun i a b => by omega)
        (fun b i hne _ => hslot b i (fun h => by cases h; exact hne ⟨hdd.symm, Nat.le_refl _, by omega⟩))
      rw [hdd]
      by_cases hip : i = pos
      · subst hip; exact ⟨_, hw5.dst⟩
      · exact isObj_of_eq (hslot d i (fun h => by injection h with _ h; exact hip h)) (hdd ▸ hm3.objs i hi)
    exact ⟨rfl, hm5.inserted (k := 1) hv hl hn hdd rfl rfl hpos (by omega)
      (fun j hj => by obtain rfl : j = 0 := (by simpa using hj); exact hw5.dst)
      (fun i h1 h2 => by rw [hslot d (i + 1) (fun h => by injection h with _ h; omega)]; exact hv3 i h1 h2)⟩
  · intro e w5 ⟨⟨_, ht⟩, _⟩
    have : cfg.tMove = false := Cfg.tMove_of_nothrowMove cfg hnt
    simp [Src.ticks, this] at ht

end SvModel
