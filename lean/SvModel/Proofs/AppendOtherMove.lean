/-
`c.append (std::move (o))` in its MOVING mode inside a system of containers (hpp:5826-5845; `relocate_with_move`: the
element type has a nothrow move constructor or cannot be copied): the destination gains the source's values, the source
is empty afterwards, every other container is untouched.  When the move constructor cannot throw the only possible
failures are `length_error` and the allocator's exception, and they leave the WHOLE world — source included, nothing
moved-from — as it was (strong guarantee, C05); for a type that is not copyable and whose move may throw the guarantee
is basic: both containers valid, sizes and buffers as before, some of the source's elements moved-from (C06).
-/
import SvModel.Proofs.AppendMove
import SvModel.Proofs.AppendOther

namespace SvModel
open Gen
variable {α : Type}

/-- what a failed moving append leaves: nothing changed at all unless an element constructor could throw; in any case the
    system is valid, every header is as before, the other containers hold what they held -/
def MoveAppendFailSys (cfg : Cfg) (w w' : World α) (U A : List Nat) (c o : Nat) : Prop :=
  (canThrow cfg false = false → canThrow cfg true = false → Strong w w') ∧
  SysAll cfg w' U A ∧ w'.hdr = w.hdr ∧ w'.live = w.live ∧
  (∀ d ∈ A, d ≠ c → d ≠ o → ∀ xs, Holds w d xs → Holds w' d xs)

theorem MoveAppendFailSys.of_strong {cfg : Cfg} {w w' : World α} {U A : List Nat} {c o : Nat} (hs : SysAll cfg w U A) (hc : c ∈ A)
    (h : Strong w w') : MoveAppendFailSys cfg w w' U A c o := by
  have hb := h.basic hs.ok.led (hs.ok.vec c hc)
  exact ⟨fun _ _ => h, hs.step hc hb, h.hdr, h.live, fun d hd hdc _ xs hx => hs.ok.holds_other hc hb hd hdc hx⟩

/-- `append_range` over move iterators of `o`'s elements (strong policy, as the public `append` uses it) -/
theorem SysAll.appendByMove {cfg : Cfg} {w : World α} {U A : List Nat} {c o : Nat} (hs : SysAll cfg w U A)
    (hc : c ∈ A) (ho : o ∈ A) (hoc : o ≠ c) :
    (appendRangeFwd cfg c true (srcsMove (w.hdr o).data 0 (w.hdr o).size) w).sat
      (fun _ w' => SysAll cfg w' U A ∧ (∀ xs ys, Holds w c xs → Holds w o ys → Holds w' c (xs ++ ys)) ∧
                   (∀ d ∈ A, d ≠ c → d ≠ o → ∀ xs, Holds w d xs → Holds w' d xs))
      (fun _ w' => MoveAppendFailSys cfg w w' U A c o) := by
  have hco : c ≠ o := fun e => hoc e.symm
  have hvc := hs.ok.vec c hc
  have hvo := hs.ok.vec o ho
  have hl := hs.ok.led
  have hsl := hvc.size_le
  have hcm := hvc.cap_le_max (hs.ok.nmax c hc)
  unfold appendRangeFwd
  rw [bind_run, getV_run]
  simp only [srcsMove_length]
  rw [guard_appendRange2_0_eq, guard_appendRange2_1_eq]
  -- both kernels give the same two outcomes
  have fin : ∀ {β : Type} (r : Res (World α) β), r.sat (fun _ w' => MoveAppended cfg w w' c o) (fun e w' => MoveAppendFail cfg true w w' c o e) →
      r.sat (fun _ w' => SysAll cfg w' U A ∧ (∀ xs ys, Holds w c xs → Holds w o ys → Holds w' c (xs ++ ys)) ∧
                   (∀ d ∈ A, d ≠ c → d ≠ o → ∀ xs, Holds w d xs → Holds w' d xs))
        (fun _ w' => MoveAppendFailSys cfg w w' U A c o) := by
    intro β r hr
    refine Res.sat_mono hr ?_ ?_
    · intro _ w' ⟨wh, hb1, hb2, hcat⟩
      obtain ⟨a, _, _, d⟩ := hs.two_steps hc ho hb1 hb2
      exact ⟨a, hcat, d⟩
    · intro e w' hf
      rcases hf with ⟨_, hq⟩ | ⟨_, hcan, wh, hb1, hb2, hh, hlv⟩
      · exact MoveAppendFailSys.of_strong hs hc (Strong.of_quiet hl hq)
      · obtain ⟨a, _, _, d⟩ := hs.two_steps hc ho hb1 hb2
        refine ⟨fun h1 h2 => ?_, a, hh, hlv, d⟩
        rcases hcan with h | h
        · rw [h1] at h; cases h
        · rw [h2] at h; cases h
  by_cases hz : (w.hdr o).size = 0
  ·
    rw [hz]
    have he : (srcsMove (w.hdr o).data 0 0 : List (Src α)) = [] := by simp [srcsMove]
    rw [he, if_neg (by simp)]
    have h := appendInPlace_sat cfg c ([] : List (Src α)) w hvc hl (by simp; exact hsl)
      ⟨fun s h => by simp at h, fun s h => by simp at h, fun s h => by simp at h⟩
    simp only [List.length_nil] at h
    refine Res.sat_mono h ?_ (fun _ w' hst => MoveAppendFailSys.of_strong hs hc hst.2)
    intro _ w' ⟨_, ha⟩
    refine ⟨hs.step hc ha.basic, fun xs ys hx hy => ?_, fun d hd hdc _ xs hx => hs.ok.holds_other hc ha.basic hd hdc hx⟩
    have hy0 : ys = [] := List.eq_nil_of_length_eq_zero (by rw [hy.1, hz])
    have := ha.holds xs hx
    rw [hy0]; simpa using this
  · obtain ⟨hd, hi⟩ := hs.ok.apart hc ho hoc (by omega)
    by_cases h0 : (w.hdr c).cap - (w.hdr c).size < (w.hdr o).size
    · rw [if_pos (decide_eq_true h0)]
      by_cases h1 : cfg.maxSize - (w.hdr c).size < (w.hdr o).size
      · rw [if_pos (decide_eq_true h1)]
        exact MoveAppendFailSys.of_strong hs hc (Strong.refl hl)
      · rw [if_neg (by simpa using h1)]
        exact fin _ (Res.sat_mono (appendMoveRealloc_sat cfg c o true w hvc hl hvo (by omega) (by omega) hd hi)
          (fun _ _ h => h.2) (fun _ _ h => h))
    · rw [if_neg (by simpa using h0)]
      refine fin _ (Res.sat_mono (appendMoveInPlace_sat cfg c o w hvc hl hvo hco (by omega) hd hi) (fun _ _ h => h.2) ?_)
      intro e w' hf
      rcases hf with h | ⟨a, b, c'⟩
      · exact Or.inl h
      · exact Or.inr ⟨a, Or.inl (by rcases b with b | b <;> exact b), c'⟩

theorem SysAll.appendOtherMove_moving {cfg : Cfg} {w : World α} {U A : List Nat} {c o : Nat} (hs : SysAll cfg w U A)
    (hc : c ∈ A) (ho : o ∈ A) (hoc : o ≠ c) (hmode : relocateWithMove cfg.policy = true) :
    (SvModel.appendOtherMove cfg c o w).sat
      (fun _ w' => SysAll cfg w' U A ∧ (∀ xs ys, Holds w c xs → Holds w o ys → Holds w' c (xs ++ ys)) ∧ Holds w' o [] ∧
                   (∀ d ∈ A, d ≠ c → d ≠ o → ∀ xs, Holds w d xs → Holds w' d xs))
      (fun _ w' => MoveAppendFailSys cfg w w' U A c o) := by
  unfold SvModel.appendOtherMove
  rw [bind_run, getV_run]; simp only []
  rw [hmode]
  simp only [if_true]
  exact SysAll.then_eraseAll hc ho hoc (SysAll.appendByMove hs hc ho hoc)

/-- with a move constructor that cannot throw (and really moves) a failed `append (small_vector&&)` changed nothing -/
theorem SysAll.appendOtherMove_nothrow {cfg : Cfg} {w : World α} {U A : List Nat} {c o : Nat} (hs : SysAll cfg w U A)
    (hc : c ∈ A) (ho : o ∈ A) (hoc : o ≠ c) (hmode : relocateWithMove cfg.policy = true)
    (hreal : cfg.realMove = true) (hnt : cfg.tMove = false) :
    (SvModel.appendOtherMove cfg c o w).sat
      (fun _ w' => SysAll cfg w' U A ∧ (∀ xs ys, Holds w c xs → Holds w o ys → Holds w' c (xs ++ ys)) ∧ Holds w' o [] ∧
                   (∀ d ∈ A, d ≠ c → d ≠ o → ∀ xs, Holds w d xs → Holds w' d xs))
      (fun _ w' => Strong w w') := by
  refine Res.sat_mono (SysAll.appendOtherMove_moving hs hc ho hoc hmode) (fun _ _ h => h) ?_
  intro _ w' hf
  refine hf.1 ?_ ?_
  · simp [canThrow, movesFor, hreal, hnt]
  · simp [canThrow, movesFor, hreal, hnt, hmode]

theorem SysAll.appendOtherMove {cfg : Cfg} {w : World α} {U A : List Nat} {c o : Nat} (hs : SysAll cfg w U A)
    (hc : c ∈ A) (ho : o ∈ A) (hoc : o ≠ c) (hstrong : movesFor cfg true = true → cfg.tMove = false) :
    (SvModel.appendOtherMove cfg c o w).sat
      (fun _ w' => SysAll cfg w' U A ∧ (∀ xs ys, Holds w c xs → Holds w o ys → Holds w' c (xs ++ ys)) ∧ Holds w' o [] ∧
                   (∀ d ∈ A, d ≠ c → d ≠ o → ∀ xs, Holds w d xs → Holds w' d xs))
      (fun _ w' => MoveAppendFailSys cfg w w' U A c o) := by
  by_cases hmode : relocateWithMove cfg.policy = true
  · exact SysAll.appendOtherMove_moving hs hc ho hoc hmode
  · exact Res.sat_mono (SysAll.appendOtherMove_copying hs hc ho hoc hstrong (by simpa using hmode)) (fun _ _ h => h)
      (fun _ _ h => MoveAppendFailSys.of_strong hs hc h)

end SvModel
