/-
`assign (first, last)` with single-pass (input) iterators (hpp:3553-3565): overwrite the existing elements while both
the range and the container last, then erase the rest of the container or append the rest of the range.
For every fault list: the contents are the range's values (as for a random-access range), `Basic` in both outcomes, and
the iterator protocol (C15): position p dereferenced once, then incremented once, in sequence order, nothing at or beyond
`last`; after a throw the events are a prefix ending with the dereference whose element failed.
-/
import SvModel.Proofs.InputRange
import SvModel.Proofs.AssignSpec
import SvModel.Proofs.Erase

namespace SvModel
open Gen
variable {α : Type}

/-- the overwrite loop: consumes `k = min (length, size - p)` positions -/
theorem assignInputLoop_sat (cfg : Cfg) (c sid : Nat) :
    ∀ (xs : List α) (p : Nat) (w : World α), VecOK cfg w c → Ledger w → p ≤ (w.hdr c).size →
    (assignInputLoop cfg c sid p xs w).sat
      (fun r w' => ∃ k, k ≤ xs.length ∧ r = (p + k, xs.drop k) ∧ (k < xs.length → p + k = (w.hdr c).size) ∧ p + k ≤ (w.hdr c).size ∧
          Touched w w' (fun b i => b = (w.hdr c).data ∧ p ≤ i ∧ i < p + k) ∧
          (∀ i, i < k → (w'.mem (w.hdr c).data)[p + i]? = (xs[i]?).map (fun v => Slot.obj (Val.val v))) ∧
          iterEvs w'.trace = iterEvs w.trace ++ streamEvs sid p k)
      (fun e w' => e = .elem ∧ ∃ k, k < xs.length ∧ p + k < (w.hdr c).size ∧
          Touched w w' (fun b i => b = (w.hdr c).data ∧ p ≤ i ∧ i < p + k + 1) ∧
          iterEvs w'.trace = iterEvs w.trace ++ streamEvs sid p k ++ [.deref sid (p + k)]) := by
  intro xs
  induction xs with
  | nil =>
    intro p w _ _ hp
    show ∃ k, _
    refine ⟨0, Nat.le_refl _, rfl, fun h => by simp at h, by omega, Touched.refl w _, fun i h => by omega, ?_⟩
    simp [streamEvs]
  | cons x xs ih =>
    intro p w hv hl hp
    unfold assignInputLoop
    rw [bind_run, getV_run]
    simp only []
    by_cases hend : p = (w.hdr c).size
    · rw [if_pos hend]
      show ∃ k, _
      refine ⟨0, Nat.zero_le _, rfl, fun _ => hend, by omega, Touched.refl w _, fun i h => by omega, ?_⟩
      simp [streamEvs]
    rw [if_neg hend]
    have hlt : p < (w.hdr c).size := by omega
    refine sat_bind (emit_sat (.deref sid p) w) (fun _ w1 ⟨hq01, ht1⟩ => ?_) (fun _ _ h => h.elim)
    have hm1 : w1.mem = w.mem := hq01.1
    have htr1 : iterEvs w1.trace = iterEvs w.trace ++ [.deref sid p] := by rw [ht1, iterEvs_append]; rfl
    obtain ⟨u, hu⟩ := hv.objs p hlt
    have hu1 : (w1.mem (w.hdr c).data)[p]? = some (.obj u) := by rw [hm1]; exact hu
    refine sat_bind (Res.sat_and
        (assignSrc_sat cfg (w.hdr c).data p (.ext x) w1 u hu1 (fun b i h => by simp [Src.loc] at h) (by simp [Src.loc]))
        ((NoIter.assignSrc cfg (w.hdr c).data p (Src.ext x)).sat w1))
      (fun _ w2 ⟨hasg, hni⟩ => ?_) (fun e w2 ⟨⟨⟨he, _⟩, hq⟩, hni⟩ => ?_)
    · refine sat_bind (emit_sat (.incr sid p) w2) (fun _ w3 ⟨hq23, ht3⟩ => ?_) (fun _ _ h => h.elim)
      have hm3 : w3.mem = w2.mem := hq23.1
      have htr3 := iterEvs_round htr1 hni ht3
      have ht12 : Touched w1 w2 (fun b i => (b, i) = ((w.hdr c).data, p)) :=
        hasg.touched_nm rfl (fun b i h => by simp [Src.loc] at h)
      have ht03 : Touched w w3 (fun b i => b = (w.hdr c).data ∧ p ≤ i ∧ i < p + 1) :=
        ((Touched.of_quiet _ hq01).trans (ht12.mono (fun b i h => by injection h with h1 h2; exact ⟨h1, by omega, by omega⟩))).trans
          (Touched.of_quiet _ hq23)
      have hh3 : w3.hdr = w.hdr := ht03.ctl.hdr
      have hb03 := basic_of_touched cfg (c := c) hv hl ht03 (fun b i h => ⟨h.1, by omega⟩)
      have hdst3 : (w3.mem (w.hdr c).data)[p]? = some (.obj (.val x)) := by
        rw [hm3, hasg.dst]; simp [srcVal]
      have ih := ih (p + 1) w3 hb03.vec hb03.led (by rw [hh3]; omega)
      rw [hh3] at ih
      refine Res.sat_mono ih ?_ ?_
      · intro r' w' h
        obtain ⟨k, hk, hr', hfull, hle, ht, hvals, htr⟩ := h
        refine ⟨k + 1, by simp; omega, ?_, ?_, by omega, ?_, ?_, ?_⟩
        · rw [hr']; simp [Nat.add_assoc, Nat.add_comm 1 k]
        · intro h; have := hfull (by simpa using h); omega
        · exact (ht03.mono (fun b i h => ⟨h.1, h.2.1, by omega⟩)).trans (ht.mono (fun b i h => ⟨h.1, by omega, by omega⟩))
        · intro i hi
          cases i with
          | zero =>
            simp only [Nat.add_zero, List.getElem?_cons_zero, Option.map_some]
            rw [ht.same _ p (by intro ⟨_, h, _⟩; omega)]; exact hdst3
          | succ i =>
            have := hvals i (by omega)
            rw [show p + 1 + i = p + (i + 1) by omega] at this
            rw [this]; simp
        · rw [htr, htr3]; exact streamEvs_round _ sid p k
      · intro e w' h
        obtain ⟨he, k, hk, hlt', ht, htr⟩ := h
        refine ⟨he, k + 1, by simp; omega, by omega, ?_, ?_⟩
        · exact (ht03.mono (fun b i h => ⟨h.1, h.2.1, by omega⟩)).trans (ht.mono (fun b i h => ⟨h.1, by omega, by omega⟩))
        · rw [htr, htr3]; exact streamEvs_round_deref _ sid p k
    · refine ⟨he, 0, by simp, by omega, Touched.of_quiet _ (hq01.trans hq), ?_⟩
      rw [hni, htr1]; exact streamEvs_first_deref _ sid p

/-- the iterator events of the two loops add up (`streamEvs_append`) -/
theorem assignWithRangeInput_sat (cfg : Cfg) (c sid : Nat) (xs : List α) (w : World α)
    (hv : VecOK cfg w c) (hl : Ledger w) (hN : (w.hdr c).N ≤ cfg.maxSize)
    (hpol : movesFor cfg true = true → cfg.tMove = false) :
    (assignWithRangeInput cfg c sid xs w).sat
      (fun _ w' => Basic cfg w w' c ∧ (∀ ys, Holds w c ys → Holds w' c (xs.map Val.val)) ∧
                   iterEvs w'.trace = iterEvs w.trace ++ streamEvs sid 0 xs.length)
      (fun _ w' => Basic cfg w w' c ∧ ∃ k, k < xs.length ∧
                   iterEvs w'.trace = iterEvs w.trace ++ streamEvs sid 0 k ++ [Ev.deref sid k]) := by
  unfold assignWithRangeInput
  have hloop := assignInputLoop_sat cfg c sid xs 0 w hv hl (Nat.zero_le _)
  refine sat_bind hloop (fun r w1 h1 => ?_) (fun e w1 h1 => ?_)
  · obtain ⟨k, hk, hr, hfull, hle, ht, hvals, htr⟩ := h1
    simp only [Nat.zero_add] at hr hfull hle hvals
    have hb1 := basic_of_touched cfg (c := c) hv hl ht (fun b i h => ⟨h.1, by omega⟩)
    have hh1 : w1.hdr = w.hdr := ht.ctl.hdr
    have hkl : (List.map Val.val (List.take k xs)).length = k := by simp [List.length_take]; omega
    have hz : ∀ i, i < ((xs.take k).map Val.val).length →
        (w1.mem (w1.hdr c).data)[i]? = ((xs.take k).map Val.val)[i]?.map Slot.obj := by
      intro i hi
      rw [hkl] at hi
      rw [hh1, hvals i hi, List.getElem?_map, List.getElem?_take_of_lt hi]
      cases xs[i]? <;> rfl
    obtain ⟨ys1, hy1⟩ := hb1.vec.holds_exists
    rw [hr]
    simp only []
    rw [guard_assignWithRange0_0_eq]
    by_cases hrest : (xs.drop k).length = 0
    · rw [if_pos (decide_eq_true hrest)]
      have hkx : k = xs.length := by simp at hrest; omega
      refine Res.sat_mono (Res.sat_and (eraseToEnd_sat cfg c k w1 hb1.vec hb1.led (by rw [hh1]; exact hle))
          ((NoIter.eraseToEnd cfg c k).sat w1))
        (fun _ w' ⟨her, hni⟩ => ⟨Basic.trans hl hv hb1 her.basic, fun ys hy => ?_, by rw [hni, htr, hkx]⟩) (fun _ _ h => h.1.elim)
      have := her.holds _ hy1
      have heq := Holds.take_eq hy1 (zs := (xs.take k).map Val.val) (by rw [hkl, hy1.1, hh1]; exact hle) hz
      rw [hkl] at heq
      rw [heq, hkx, List.take_length] at this
      exact this
    · rw [if_neg (by simpa using hrest)]
      have hklt : k < xs.length := by simp at hrest; omega
      have hksz : k = (w.hdr c).size := hfull hklt
      have happ := appendRangeInputLoop_sat cfg c false (w1.hdr c).size sid hpol (xs.drop k) k w1 hb1.vec hb1.led
        (by rw [hh1]; exact hN) (Nat.le_refl _)
      unfold appendRangeInput
      refine sat_bind ?_ (fun _ _ h => h) (fun _ _ h => h)
      rw [getV_bind]
      refine sat_bind happ (fun _ w' ⟨hb, hh, htr'⟩ => ?_) (fun e w' ⟨hb, hh⟩ => ?_)
      · show Basic cfg w w' c ∧ _
        refine ⟨Basic.trans hl hv hb1 hb, fun ys hy => ?_, ?_⟩
        · have := hh _ (holds_of_get? (by rw [hkl, hh1]; exact hksz) hz)
          rw [← List.map_append, List.take_append_drop] at this
          exact this
        · rw [htr', htr, List.append_assoc, List.length_drop]
          have := streamEvs_append sid k 0 (xs.length - k)
          simp only [Nat.zero_add] at this
          rw [this, show k + (xs.length - k) = xs.length by omega]
      · obtain ⟨j, hj, _, htr'⟩ := hh _ hy1
        refine ⟨Basic.trans hl hv hb1 hb, k + j, by rw [List.length_drop] at hj; omega, ?_⟩
        rw [htr', htr]
        have := streamEvs_append sid k 0 j
        simp only [Nat.zero_add] at this
        rw [← this]; simp [List.append_assoc]
  · obtain ⟨_, k, hk, hlt, ht, htr⟩ := h1
    simp only [Nat.zero_add] at hlt ht htr
    exact ⟨basic_of_touched cfg (c := c) hv hl ht (fun b i h => ⟨h.1, by omega⟩), k, hk, htr⟩

end SvModel
