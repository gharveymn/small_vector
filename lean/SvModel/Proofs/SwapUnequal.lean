/-
`swap_unequal_no_propagate`, reallocating path (hpp:4504-4532): the allocators are unequal and do not propagate, and `o`'s
elements do not fit into `c`'s buffer.  `c` obtains a new block from its OWN allocator, `o`'s elements are move-constructed
into it, `c`'s elements are move-assigned over the front of `o`'s buffer and the rest of `o`'s buffer is destroyed; then
`c`'s old elements are destroyed, its old block released, it switches to the new block and the sizes are exchanged.
Two nested roll-back handlers: a throw while assigning destroys the new block's elements, any throw releases the block.

Outcome, as everywhere: a chain of single-container `Basic` steps through fictitious intermediate worlds.
-/
import SvModel.Proofs.Swap
import SvModel.Proofs.MoveAssignRealloc

namespace SvModel
open Gen
variable {α : Type}

/-- the state after the guarded part of the reallocating swap: `o`'s buffer is final (it holds `c`'s values, then raw
    storage up to `o`'s old size), and relative to the world with that buffer the new block of `c` is built (headers
    untouched, `c`'s old elements moved-from) and holds `o`'s values.  `w` is the world before the allocation: contents
    are compared with it, the ledger is the one `built` gives (one block more than in `w`). -/
structure SwapBuilt (cfg : Cfg) (w w5 : World α) (c o ncap : Nat) : Prop where
  built : BuiltA cfg (husked w w5 (w.hdr o).data) w5 c ncap (w.hdr c).alloc
  olen  : (w5.mem (w.hdr o).data).length = (w.mem (w.hdr o).data).length
  newv  : ∀ k, k < (w.hdr o).size → (w5.mem w.next)[k]? = (w.mem (w.hdr o).data)[k]?
  newr  : ∀ i, (w.hdr o).size ≤ i → i < ncap → IsRaw w5 w.next i
  odv   : ∀ k, k < (w.hdr c).size → (w5.mem (w.hdr o).data)[k]? = (w.mem (w.hdr c).data)[k]?
  otail : ∀ i, (w.hdr c).size ≤ i → i < (w.hdr o).size → IsRaw w5 (w.hdr o).data i
  orest : ∀ i, (w.hdr o).size ≤ i → (w5.mem (w.hdr o).data)[i]? = (w.mem (w.hdr o).data)[i]?

/-- a failed reallocating swap: a chain of `Basic` steps (on `o`, on `c`) followed by an unobservable change -/
def SwapAbort (cfg : Cfg) (w w' : World α) (c o : Nat) : Prop :=
  ∃ wh wh2, Basic cfg w wh o ∧ Basic cfg wh wh2 c ∧ Strong wh2 w' ∧ wh.live = w.live ∧ wh2.live = w.live

/-- a state of the guarded part from which the roll-back starts: the new block is raw again, the two buffers hold
    objects below their sizes and nothing else differs from `w`.  `w2` is `w` after the allocation: the control state of
    `w3` is that of `w2`, the contents are compared with `w`. -/
structure SwapRollback (w w2 w3 : World α) (c o ncap : Nat) : Prop where
  ctl   : Ctl w2 w3
  oobj  : ∀ k, k < (w.hdr o).size → IsObj w3 (w.hdr o).data k
  cobj  : ∀ k, k < (w.hdr c).size → IsObj w3 (w.hdr c).data k
  other : ∀ (b i : Nat), b ≠ w.next → ¬ (b = (w.hdr o).data ∧ i < (w.hdr o).size) → ¬ (b = (w.hdr c).data ∧ i < (w.hdr c).size) →
            (w3.mem b)[i]? = (w.mem b)[i]?
  rawN  : ∀ i, i < ncap → IsRaw w3 w.next i

theorem SwapRollback.abort (cfg : Cfg) {w w2 w3 : World α} {c o ncap : Nat} (hv : VecOK cfg w c) (hl : Ledger w) (hvo : VecOK cfg w o)
    (hd : (w.hdr o).data ≠ (w.hdr c).data) (hi : (w.hdr o).data ≠ (w.hdr c).inl) (hb2 : Built cfg w w2 c ncap)
    (h : SwapRollback w w2 w3 c o ncap) :
    ∃ w6, deallocate (w.hdr c).alloc w.next ncap w3 = .ok () w6 ∧ SwapAbort cfg w w6 c o := by
  obtain ⟨hb1, hvh, hbA⟩ := husked_built cfg hv hl hvo hd hi hb2 h.ctl h.oobj h.cobj h.other
  obtain ⟨hbc, w6, hd6, hs6⟩ := hbA.abort_husked hvh hb1.led h.rawN
  exact ⟨w6, hd6, _, _, hb1, hbc, hs6, rfl, rfl⟩

theorem swapUneq_build_sat (cfg : Cfg) (c o : Nat) (w : World α) (ncap : Nat)
    (hv : VecOK cfg w c) (hl : Ledger w) (hvo : VecOK cfg w o)
    (hle : (w.hdr c).size ≤ (w.hdr o).size) (hfit : (w.hdr o).size ≤ ncap)
    (hd : (w.hdr o).data ≠ (w.hdr c).data) (hi : (w.hdr o).data ≠ (w.hdr c).inl) :
    ((allocate cfg (w.hdr c).alloc ncap >>= fun nb =>
      tryCatch
        (uninitializedMove cfg false (w.hdr o).data 0 (w.hdr o).size nb 0 >>= fun _ =>
          tryCatch
            (assignGen cfg (w.hdr o).data 0 (srcsMove (w.hdr c).data 0 (w.hdr c).size) >>= fun _ =>
              destroyRange cfg (w.hdr o).data (w.hdr c).size ((w.hdr o).size - (w.hdr c).size))
            (fun ex => destroyRange cfg nb 0 (w.hdr o).size >>= fun _ => throwE ex))
        (fun ex => deallocate (w.hdr c).alloc nb ncap >>= fun _ => throwE ex) >>= fun _ => pure nb) w).sat
      (fun nb w5 => nb = w.next ∧ SwapBuilt cfg w w5 c o ncap)
      (fun e w' => (e = .alloc ∨ e = .elem) ∧ SwapAbort cfg w w' c o) := by
  have hod_next : (w.hdr o).data ≠ w.next := Nat.ne_of_lt (hvo.data_lt_next hl)
  have hcd_next : (w.hdr c).data ≠ w.next := Ne.symm (hv.next_ne hl).1
  refine sat_bind (allocate_built_sat cfg c ncap (w.hdr c).alloc w hv hl) (fun nb w2 h2 => ?_)
    (fun e w2 h => ⟨Or.inl h.1, w, w, (Strong.refl hl).basic hl hvo, (Strong.refl hl).basic hl hv, Strong.of_quiet hl h.2, rfl, rfl⟩)
  obtain ⟨rfl, hb2, hraw2, hoth2⟩ := h2
  -- every throw inside the outer `try` starts the roll-back
  refine sat_bind (Q := fun _ w5 => SwapBuilt cfg w w5 c o ncap)
    (sat_tryCatch (E1 := fun e w3 => e = .elem ∧ SwapRollback w w2 w3 c o ncap) ?body (fun e w3 ⟨he, hr⟩ => ?handler))
    (fun _ w5 h => ⟨rfl, h⟩) (fun _ _ h => h)
  case handler =>
    obtain ⟨w6, hd6, hab⟩ := hr.abort cfg hv hl hvo hd hi hb2
    rw [bind_run, hd6]
    exact ⟨Or.inr he, hab⟩
  have keep3 : ∀ {w3 : World α}, Rows w2 w3 w.next (w.hdr o).data 0 (w.hdr o).size →
      ∀ b i, b ≠ w.next → ¬ (b = (w.hdr o).data ∧ i < (w.hdr o).size) → (w3.mem b)[i]? = (w.mem b)[i]? := fun hr b i hb hn =>
    (hr.outside (fun x => hb x.1) hn).trans (by rw [hoth2 b hb])
  have rawN3 : ∀ {w3 : World α}, Rows w2 w3 w.next (w.hdr o).data 0 (w.hdr o).size →
      ∀ i, (w.hdr o).size ≤ i → i < ncap → IsRaw w3 w.next i := fun hr i h1 h2 =>
    isRaw_of_eq (hr.rest _ i (Or.inr (Or.inr h1))) (hraw2 i h2)
  refine sat_bind (relocate_rows_sat cfg (w.hdr o).data w.next 0 (w.hdr o).size w2
      (fun i _ hi' => by unfold IsObj; rw [hoth2 _ hod_next]; exact hvo.objs i hi')
      (fun i _ hi' => hraw2 i (Nat.lt_of_lt_of_le hi' hfit)))
    (fun _ w3 ⟨hr, hdst3, hsrc3⟩ => ?moved) (fun e w3 ⟨he, hf, hdst, hsrc⟩ => ?failed)
  case failed =>
    refine ⟨he, hf.ctl, fun k hk => hsrc k (Nat.zero_le k) hk,
      fun k hk => isObj_of_eq (keep3 hf _ k hcd_next (fun x => hd x.1.symm)) (hv.objs k hk),
      fun b i hb hn _ => keep3 hf b i hb hn, fun i hi' => ?_⟩
    by_cases h : i < (w.hdr o).size
    · exact hdst i (Nat.zero_le i) h
    · exact rawN3 hf i (Nat.le_of_not_lt h) hi'
  have hw3 := keep3 hr
  have hcd3 : ∀ i : Nat, (w3.mem (w.hdr c).data)[i]? = (w.mem (w.hdr c).data)[i]? := fun i => hw3 _ i hcd_next (fun x => hd x.1.symm)
  have hnew3 : ∀ k, k < (w.hdr o).size → (w3.mem w.next)[k]? = (w.mem (w.hdr o).data)[k]? := fun k hk => by
    rw [hdst3 k (Nat.zero_le k) hk, hoth2 _ hod_next]
  have hno : w.next ≠ (w.hdr o).data := Ne.symm hod_next
  have hnc : w.next ≠ (w.hdr c).data := Ne.symm hcd_next
  refine sat_tryCatch (sat_bind (assignRows_sat cfg (w.hdr o).data (w.hdr c).data (Ne.symm hd) 0 (w.hdr c).size w3
      (fun i _ hi' => isObj_of_eq (hcd3 i) (hv.objs i hi')) (fun i _ hi' => hsrc3 i (Nat.zero_le i) (Nat.lt_of_lt_of_le hi' hle)))
    (fun _ w4 ⟨ha, hv4, hh4⟩ => ?_) (fun _ _ h => h)) (fun e w4 ⟨he, ha, hdo4, hsc4⟩ => ?_)
  · refine Res.sat_mono (destroyRows_sat cfg (w.hdr o).data (w.hdr c).size (w.hdr o).size w4 (fun i x y =>
      isObj_of_eq (ha.rest _ i (Or.inr (Or.inr x))) (hsrc3 i (Nat.zero_le i) y))) (fun _ w5 ⟨hc45, hr5, hrest5⟩ => ?_) (fun _ _ h => h.elim)
    have hc25 : Ctl w2 w5 := (hr.ctl.trans ha.ctl).trans hc45
    refine ⟨hb2.husked_other hc25 (fun k hk => ?_) (fun b i h1 h2 h3' => ?_), (hc25.len _).trans (hb2.lenOld _ hod_next),
      fun k hk => ?_, fun i x y => ?_, fun k hk => ?_, hr5, fun i x => ?_⟩
    · refine isObj_of_eq (hrest5.ne (Ne.symm hd) k) ?_
      unfold IsObj; rw [hh4 k (Nat.zero_le k) hk]
      by_cases hrm : cfg.realMove = true
      · exact ⟨.husk, by simp [hrm]⟩
      · obtain ⟨v, hv'⟩ := hv.objs k hk; exact ⟨v, by simp [hrm, hcd3 k, hv']⟩
    · exact (hrest5.ne h2 i).trans ((ha.outside (fun z => h2 z.1) h3').trans (hw3 b i h1 (fun z => h2 z.1)))
    · exact (hrest5.ne hno k).trans ((ha.rest _ k (Or.inl ⟨hno, hnc⟩)).trans (hnew3 k hk))
    · exact isRaw_of_eq ((hrest5.ne hno i).trans (ha.rest _ i (Or.inl ⟨hno, hnc⟩))) (rawN3 hr i x y)
    · exact (hrest5.lt hk).trans ((hv4 k (Nat.zero_le k) hk).trans (hcd3 k))
    · exact (hrest5.ge x).trans ((ha.rest _ i (Or.inr (Or.inr (Nat.le_trans hle x)))).trans
        (hw3 _ i hod_next (fun z => Nat.not_lt_of_le x z.2)))
  · refine sat_bind (destroyRows_sat cfg w.next 0 (w.hdr o).size w4 (fun i _ y =>
      isObj_of_eq ((ha.rest _ i (Or.inl ⟨hno, hnc⟩)).trans (hnew3 i y)) (hvo.objs i y))) (fun _ w5 ⟨hc45, hr5, hrest5⟩ => ?_) (fun _ _ h => h.elim)
    refine ⟨he, (hr.ctl.trans ha.ctl).trans hc45, fun k hk => isObj_of_eq (hrest5.ne hod_next k) ?_,
      fun k hk => isObj_of_eq (hrest5.ne hcd_next k) (hsc4 k (Nat.zero_le k) hk), fun b i h1 h2 h3' => ?_, fun i hi' => ?_⟩
    · by_cases h : k < (w.hdr c).size
      · exact hdo4 k (Nat.zero_le k) h
      · exact isObj_of_eq (ha.rest _ k (Or.inr (Or.inr (Nat.le_of_not_lt h)))) (hsrc3 k (Nat.zero_le k) hk)
    · exact (hrest5.ne h1 i).trans ((ha.outside (fun z => h2 ⟨z.1, Nat.lt_of_lt_of_le z.2 hle⟩) h3').trans (hw3 b i h1 h2))
    · by_cases h : i < (w.hdr o).size
      · exact hr5 i (Nat.zero_le i) h
      · exact isRaw_of_eq ((hrest5.ge (Nat.le_of_not_lt h)).trans (ha.rest _ i (Or.inl ⟨hno, hnc⟩)))
          (rawN3 hr i (Nat.le_of_not_lt h) hi')

theorem switchSwapSize_run (c o : Nat) (hco : c ≠ o) (nb ncap : Nat) (w : World α) :
    (setDataPtr c nb >>= fun _ => setCapacity c ncap >>= fun _ => swapSize c o) w =
      .ok () { w with hdr := upd (upd w.hdr o { w.hdr o with size := (w.hdr c).size }) c
                                  { w.hdr c with data := nb, cap := ncap, size := (w.hdr o).size } } := by
  have hoc : o ≠ c := fun h => hco h.symm
  refine Eq.trans (b := Res.ok () { w with hdr := _ }) rfl ?_
  simp only [upd_same, upd_other _ _ _ _ hoc, upd_upd, upd_comm _ hco]

/-- the unguarded tail of the reallocating swap -/
theorem swapUneq_finish_sat (cfg : Cfg) (c o : Nat) (w w5 : World α) (ncap : Nat)
    (hv : VecOK cfg w c) (hl : Ledger w) (hvo : VecOK cfg w o) (hco : c ≠ o) (hb : SwapBuilt cfg w w5 c o ncap)
    (hN : (w.hdr c).N < ncap) (hmax : ncap ≤ cfg.maxSize)
    (hle : (w.hdr c).size ≤ (w.hdr o).size) (hfit : (w.hdr o).size ≤ ncap)
    (hd : (w.hdr o).data ≠ (w.hdr c).data) (hi : (w.hdr o).data ≠ (w.hdr c).inl) :
    ((destroyRange cfg (w.hdr c).data 0 (w.hdr c).size >>= fun _ =>
      (if decide ((w.hdr c).N < (w.hdr c).cap) = true then deallocate (w.hdr c).alloc (w.hdr c).data (w.hdr c).cap else pure ()) >>= fun _ =>
      setDataPtr c w.next >>= fun _ => setCapacity c ncap >>= fun _ => swapSize c o) w5).sat
      (fun _ w' => ∃ wh, Basic cfg w wh o ∧ Basic cfg wh w' c ∧
          w'.hdr c = { w.hdr c with data := w.next, cap := ncap, size := (w.hdr o).size } ∧
          w'.hdr o = { w.hdr o with size := (w.hdr c).size } ∧
          (∀ k, k < (w.hdr o).size → (w'.mem w.next)[k]? = (w.mem (w.hdr o).data)[k]?) ∧
          (∀ k, k < (w.hdr c).size → (w'.mem (w.hdr o).data)[k]? = (w.mem (w.hdr c).data)[k]?))
      (fun _ _ => False) := by
  have hoc : o ≠ c := fun e => hco e.symm
  obtain ⟨hnd, hni⟩ := hv.next_ne hl
  have hod_lt : (w.hdr o).data < w.next := hvo.data_lt_next hl
  have hod_next : (w.hdr o).data ≠ w.next := by omega
  have hcd_next : (w.hdr c).data ≠ w.next := Ne.symm hnd
  -- what `hb.built` says, with the intermediate world's control state and blocks spelt out
  have hhdr : w5.hdr = w.hdr := hb.built.hdr
  have hlive : w5.live = w.next :: w.live := hb.built.live
  have howner : w5.owner = upd w.owner w.next (w.hdr c).alloc := hb.built.owner
  have hother : ∀ (b i : Nat), b ≠ w.next → b ≠ (w.hdr o).data → ¬ (b = (w.hdr c).data ∧ i < (w.hdr c).size) →
      (w5.mem b)[i]? = (w.mem b)[i]? := fun b i h1 h2 h3 => (hb.built.other b i h1 h3).trans (by rw [husked_mem_other _ _ _ _ h2])
  have hlen : ∀ b, b ≠ w.next → (w5.mem b).length = (w.mem b).length := fun b h => by
    by_cases hbo : b = (w.hdr o).data
    · rw [hbo]; exact hb.olen
    · exact (hb.built.lenOld b h).trans (by rw [husked_mem_other _ _ _ _ hbo])
  -- the destruction of `c`'s old elements and the release of its old block are `wipe`
  have hh5 : w5.hdr c = w.hdr c := by rw [hhdr]
  have hw := wipe_sat_of cfg c w5 (by rw [hh5]; exact hb.built.objs)
    (by rw [hh5]; exact fun i x y => isRaw_of_eq (hother _ i hcd_next (Ne.symm hd) (fun h => Nat.not_le_of_lt h.2 x)) (hv.raws i x y))
    (by rw [hh5, hlen _ hcd_next]; exact hv.len)
    (by
      rw [hh5, hlive, howner, upd_other _ _ _ _ hcd_next]
      exact fun h => ⟨List.mem_cons_of_mem _ (hv.heap (hv.heap_iff.mp h)).1, (hv.heap (hv.heap_iff.mp h)).2⟩)
  unfold wipe at hw
  rw [getV_bind, guard_wipe_0_eq, hh5] at hw
  rw [← bind_assoc_run]
  refine sat_bind hw (fun _ w7 hw7 => ?_) (fun _ _ h => h.elim)
  have hh7 : w7.hdr = w.hdr := hw7.hdr.trans hhdr
  have hlv7 := hw7.live
  have hold7 := hw7.data
  rw [hh5] at hlv7 hold7
  rw [hlive] at hlv7
  have hoth7 : ∀ b, b ≠ (w.hdr c).data → w7.mem b = w5.mem b := fun b hb' => hw7.other b (by rw [hh5]; exact hb')
  rw [switchSwapSize_run c o hco, hh7]
  generalize hw8 : ({ w7 with hdr := (upd (upd w.hdr o { w.hdr o with size := (w.hdr c).size }) c
      { w.hdr c with data := w.next, cap := ncap, size := (w.hdr o).size }) } : World α) = w8
  have hm8 : w8.mem = w7.mem := by subst hw8; rfl
  have hh8 : w8.hdr = upd (upd w.hdr o { w.hdr o with size := (w.hdr c).size }) c
      { w.hdr c with data := w.next, cap := ncap, size := (w.hdr o).size } := by subst hw8; rfl
  have hq8 : w8.live = w7.live ∧ w8.next = w7.next ∧ w8.ntmp = w7.ntmp ∧ w8.owner = w7.owner ∧ w8.ub = w7.ub := by
    subst hw8; exact ⟨rfl, rfl, rfl, rfl, rfl⟩
  have mem8 : ∀ b, b ≠ (w.hdr c).data → w8.mem b = w5.mem b := fun b hb' => by rw [hm8, hoth7 b hb']
  have hb1 : Basic cfg w (mid w w8 o (w.hdr c).size) o := by
    refine mid_basic cfg hvo hl (by rw [mem8 _ hd, hlen _ hod_next]) (Nat.le_trans hle hvo.size_le) ?_ ?_
    · intro i hi'
      obtain ⟨v, hv'⟩ := hv.objs i hi'
      exact ⟨v, by rw [mem8 _ hd, hb.odv i hi']; exact hv'⟩
    · intro i x y
      by_cases h : i < (w.hdr o).size
      · exact isRaw_of_eq (by rw [mem8 _ hd]) (hb.otail i x h)
      · exact isRaw_of_eq (by rw [mem8 _ hd]; exact hb.orest i (Nat.le_of_not_lt h)) (hvo.raws i (Nat.le_of_not_lt h) y)
  have hvh : VecOK cfg (mid w w8 o (w.hdr c).size) c := mid_vecOK cfg hv hco hd hi
  have hmc : (mid w w8 o (w.hdr c).size).hdr c = w.hdr c := by show (upd w.hdr o _) c = _; rw [upd_other _ _ _ _ hco]
  -- what `realloc_ok_alloc` asks for, relative to the world in which `o` has made its step
  have hhdr8 : w8.hdr = upd (mid w w8 o (w.hdr c).size).hdr c { (mid w w8 o (w.hdr c).size).hdr c with
      data := w.next, cap := ncap, size := (w.hdr o).size, alloc := (w.hdr c).alloc } := by
    rw [hh8]
    show upd (upd w.hdr o _) c _ = upd (upd w.hdr o _) c _
    congr 1
    rw [hmc]
  have hnext8 : w8.next = w.next + 2 := hq8.2.1.trans (hw7.next.trans hb.built.next)
  have hntmp8 : w8.ntmp = w.ntmp := hq8.2.2.1.trans (hw7.ntmp.trans hb.built.ntmp)
  have hlive8 : w8.live = if (w.hdr c).N < (w.hdr c).cap then (w.next :: w.live).erase (w.hdr c).data else w.next :: w.live :=
    hq8.1.trans hlv7
  have howner8 : w8.owner = upd w.owner w.next (w.hdr c).alloc := hq8.2.2.2.1.trans (hw7.owner.trans howner)
  have hlenN8 : (w8.mem w.next).length = ncap := by rw [mem8 _ hnd]; exact hb.built.lenNew
  have hobjN8 : ∀ i, i < (w.hdr o).size → IsObj w8 w.next i := fun i hi' =>
    isObj_of_eq (by rw [mem8 _ hnd]; exact hb.newv i hi') (hvo.objs i hi')
  have hrawN8 : ∀ i, (w.hdr o).size ≤ i → i < ncap → IsRaw w8 w.next i := fun i x y =>
    isRaw_of_eq (by rw [mem8 _ hnd]) (hb.newr i x y)
  have hold8 : if (w.hdr c).N < (w.hdr c).cap then w8.mem (w.hdr c).data = []
      else (w8.mem (w.hdr c).data).length = (w.hdr c).cap ∧ ∀ i, i < (w.hdr c).cap → IsRaw w8 (w.hdr c).data i := by
    by_cases hch : (w.hdr c).N < (w.hdr c).cap
    · rw [if_pos hch] at hold7 ⊢; rw [hm8]; exact hold7
    · rw [if_neg hch] at hold7 ⊢
      exact ⟨by rw [hm8]; exact hold7.1, fun i hi' => isRaw_of_eq (by rw [hm8]) (hold7.2 i hi')⟩
  have hother8 : ∀ b, b ≠ (w.hdr c).data → b ≠ w.next → w8.mem b = (mid w w8 o (w.hdr c).size).mem b := by
    intro b h1 h2
    by_cases hbo : b = (w.hdr o).data
    · rw [hbo, mid_mem_b]
    · rw [mid_mem_other _ _ _ _ _ hbo]
      exact List.ext_getElem? (fun i => by rw [mem8 b h1]; exact hother b i h2 hbo (fun h => h1 h.1))
  have hres := realloc_ok_alloc cfg (w := mid w w8 o (w.hdr c).size) (w' := w8) (n' := (w.hdr o).size) (w.hdr c).alloc
    hvh hb1.led (by rw [hmc]; exact hN) hmax hfit hhdr8 hnext8 hntmp8 (by rw [hmc]; exact hlive8) howner8 hlenN8 hobjN8 hrawN8
    (by rw [hmc]; exact hold8) (by rw [hmc]; exact hother8)
  obtain ⟨hvec, hled, hframe⟩ := hres
  have hub8 : w8.ub = w.ub := by rw [hq8.2.2.2.2]; exact hw7.ub.trans hb.built.ub
  refine ⟨_, hb1, ⟨hvec, hled, hub8, hframe⟩, by rw [hh8]; simp, by rw [hh8]; simp [upd_other _ _ _ _ hoc], ?_, ?_⟩
  · intro k hk; rw [mem8 _ hnd]; exact hb.newv k hk
  · intro k hk; rw [mem8 _ hd]; exact hb.odv k hk

end SvModel
