/-
push_back / emplace_back: `append_element` with its two branches `emplace_into_current_end` (in place) and
`emplace_into_reallocation_end` (allocate, build the new element, relocate under the strong policy, roll back on a
throw).  For every fault list: on normal return the invariants hold again, the container holds `xs ++ [x]`, nothing
outside the container changed; on a throw the world is observably unchanged (strong guarantee).
Also here: `ArgOK` (what an element argument may be) with its standard forms, the outcomes `Pushed` / `Appended`, and
`appended_in_place`, the in-place append of any number of elements as one use of `inplace_ok`.
-/
import SvModel.Proofs.Kernel

namespace SvModel
open Gen
variable {α : Type}

/-- an element argument: an external value, or a copy of one of the container's own live elements (aliasing) -/
structure ArgOK (cfg : Cfg) (w : World α) (c : Nat) (s : Src α) : Prop where
  nonmoving : s.moving cfg = false
  live      : SrcLive w s
  inside    : ∀ b i, s.loc = some (b, i) → b = (w.hdr c).data ∧ i < (w.hdr c).size

theorem ArgOK.of_external {cfg : Cfg} {w : World α} {c : Nat} {s : Src α} (hl : s.loc = none) (hm : s.moving cfg = false) :
    ArgOK cfg w c s :=
  ⟨hm, fun _ _ h => (by rw [hl] at h; cases h), fun _ _ h => (by rw [hl] at h; cases h)⟩

theorem argOK_ext (cfg : Cfg) (w : World α) (c : Nat) (a : α) : ArgOK cfg w c (.ext a) := .of_external rfl rfl

/-- an lvalue referring to the container's own element `i` is an admissible argument, and reads as `xs[i]` -/
theorem Holds.self_src {cfg : Cfg} {w : World α} {c i : Nat} {xs : List (Val α)} (hx : Holds w c xs) (hi : i < xs.length) :
    ArgOK cfg w c (.copyOf (w.hdr c).data i) ∧ srcVal w (.copyOf (w.hdr c).data i) = xs[i] := by
  refine ⟨⟨rfl, fun b j hl => ?_, fun b j hl => ?_⟩, srcVal_copyOf w _ _ _ (hx.2 i hi)⟩
  all_goals
    injection hl with hl
    injection hl with h1 h2
    subst h1 h2
  · exact ⟨_, hx.2 i hi⟩
  · exact ⟨rfl, hx.1 ▸ hi⟩

structure Pushed (cfg : Cfg) (w w' : World α) (c : Nat) (x : Val α) : Prop where
  vec     : VecOK cfg w' c
  led     : Ledger w'
  ub      : w'.ub = w.ub
  frame   : Frame1 w w' c
  size    : (w'.hdr c).size = (w.hdr c).size + 1
  alloc   : (w'.hdr c).alloc = (w.hdr c).alloc
  holds   : ∀ xs, Holds w c xs → Holds w' c (xs ++ [x])
  inplace : (w.hdr c).size < (w.hdr c).cap →
              (w'.hdr c).data = (w.hdr c).data ∧ (w'.hdr c).cap = (w.hdr c).cap ∧ w'.next = w.next ∧ w'.live = w.live ∧
              ∀ i, i < (w.hdr c).size → (w'.mem (w.hdr c).data)[i]? = (w.mem (w.hdr c).data)[i]?
  grown   : ¬ (w.hdr c).size < (w.hdr c).cap →
              (w'.hdr c).data = w.next ∧ (w'.hdr c).cap = newCapacity cfg.maxSize (w.hdr c).cap ((w.hdr c).size + 1)

theorem holds_append_of_slots {w w' : World α} {c : Nat} {xs vals : List (Val α)} {d n : Nat}
    (hx : Holds w c xs) (hn : n = (w.hdr c).size)
    (hsize : (w'.hdr c).size = n + vals.length) (hdata : (w'.hdr c).data = d)
    (hold : ∀ i, i < n → (w'.mem d)[i]? = (w.mem (w.hdr c).data)[i]?)
    (hnew : ∀ k (h : k < vals.length), (w'.mem d)[n + k]? = some (.obj vals[k])) :
    Holds w' c (xs ++ vals) := by
  obtain ⟨hxl, hxv⟩ := hx
  have hlen : xs.length = n := by rw [hn]; exact hxl
  refine ⟨by rw [hsize, hn]; simp [hxl], ?_⟩
  intro i hi
  rw [hdata]
  by_cases h : i < xs.length
  · rw [hold i (by omega), hxv i h]; simp [List.getElem_append_left h]
  · subst hlen
    have hk : i - xs.length < vals.length := by simp only [List.length_append] at hi; omega
    have := hnew (i - xs.length) hk
    rw [show xs.length + (i - xs.length) = i by omega] at this
    rw [this]
    simp only [List.getElem_append_right (by omega : xs.length ≤ i)]

structure Appended (cfg : Cfg) (w w' : World α) (c : Nat) (vals : List (Val α)) : Prop where
  basic : Basic cfg w w' c
  holds : ∀ xs, Holds w c xs → Holds w' c (xs ++ vals)
  size  : (w'.hdr c).size = (w.hdr c).size + vals.length
  alloc : (w'.hdr c).alloc = (w.hdr c).alloc
  inplace : (w.hdr c).size + vals.length ≤ (w.hdr c).cap →
              (w'.hdr c).data = (w.hdr c).data ∧ (w'.hdr c).cap = (w.hdr c).cap ∧ w'.next = w.next ∧ w'.live = w.live ∧
              ∀ i, i < (w.hdr c).size → (w'.mem (w.hdr c).data)[i]? = (w.mem (w.hdr c).data)[i]?
  grown : ¬ (w.hdr c).size + vals.length ≤ (w.hdr c).cap →
              (w'.hdr c).data = w.next ∧ (w'.hdr c).cap = newCapacity cfg.maxSize (w.hdr c).cap ((w.hdr c).size + vals.length)

theorem Appended.pushed {cfg : Cfg} {w w' : World α} {c : Nat} {x : Val α} (h : Appended cfg w w' c [x]) : Pushed cfg w w' c x :=
  ⟨h.basic.vec, h.basic.led, h.basic.ub, h.basic.frame, h.size, h.alloc, h.holds, h.inplace, h.grown⟩

theorem appended_in_place (cfg : Cfg) {w w1 : World α} {c n : Nat} {vals : List (Val α)} (hv : VecOK cfg w c) (hl : Ledger w)
    (hn : vals.length = n) (hfit : (w.hdr c).size + n ≤ (w.hdr c).cap) (hc1 : Ctl w w1)
    (hnew : ∀ k (h : k < vals.length), (w1.mem (w.hdr c).data)[(w.hdr c).size + k]? = some (.obj vals[k]))
    (hrest : ∀ (b i : Nat), ¬ (b = (w.hdr c).data ∧ (w.hdr c).size ≤ i ∧ i < (w.hdr c).size + n) →
               (w1.mem b)[i]? = (w.mem b)[i]?) :
    Appended cfg w ({ w1 with hdr := upd w1.hdr c { w1.hdr c with size := (w.hdr c).size + n } } : World α) c vals := by
  subst hn
  generalize hw2 : ({ w1 with hdr := upd w1.hdr c { w1.hdr c with size := (w.hdr c).size + vals.length } } : World α) = w2
  have hmem2 : w2.mem = w1.mem := by subst hw2; rfl
  have hhdr2 : w2.hdr = upd w.hdr c { w.hdr c with size := (w.hdr c).size + vals.length } := by
    subst hw2; show upd w1.hdr _ _ = _; rw [hc1.hdr]
  have hc02 : Ctl0 w w2 := by subst hw2; exact hc1.to0.with_hdr _
  rw [← hmem2] at hnew hrest
  obtain ⟨hvec, hled, hframe⟩ := inplace_ok cfg hv hl hc02 hhdr2 hfit
    (fun i hi => by
      by_cases h : i < (w.hdr c).size
      · exact isObj_of_eq (hrest _ i (fun h' => Nat.not_le_of_lt h h'.2.1)) (hv.objs i h)
      · have := hnew (i - (w.hdr c).size) (by omega)
        rw [Nat.add_sub_cancel' (Nat.not_lt.mp h)] at this
        exact ⟨_, this⟩)
    (fun i h1 h2 => isRaw_of_eq (hrest _ i (fun h' => Nat.not_lt.mpr h1 h'.2.2)) (hv.raws i (by omega) h2))
    (fun b i hb _ => hrest b i (fun h' => hb h'.1))
  have hhc : w2.hdr c = { w.hdr c with size := (w.hdr c).size + vals.length } := by rw [hhdr2]; exact upd_same _ _ _
  refine ⟨⟨hvec, hled, hc02.ub, hframe⟩, fun xs hx => ?_, by rw [hhc], by rw [hhc], fun _ => ?_, fun h => absurd hfit h⟩
  · exact holds_append_of_slots hx rfl (by rw [hhc]) (by rw [hhc]) (fun i hi => hrest _ i (fun h' => Nat.not_le_of_lt hi h'.2.1)) hnew
  · exact ⟨by rw [hhc], by rw [hhc], hc02.next, hc02.live, fun i hi => hrest _ i (fun h' => Nat.not_le_of_lt hi h'.2.1)⟩

theorem emplaceIntoCurrentEnd_sat (cfg : Cfg) (c : Nat) (s : Src α) (w : World α)
    (hv : VecOK cfg w c) (hl : Ledger w) (hlt : (w.hdr c).size < (w.hdr c).cap) (ha : ArgOK cfg w c s) :
    (emplaceIntoCurrentEnd cfg c s w).sat
      (fun r w' => r = (w.hdr c).size ∧ Pushed cfg w w' c (srcVal w s))
      (fun e w' => e = .elem ∧ Quiet w w') := by
  unfold emplaceIntoCurrentEnd
  rw [getV_bind]
  have hraw : (w.mem (w.hdr c).data)[(w.hdr c).size]? = some .raw := hv.raws _ (Nat.le_refl _) hlt
  refine sat_bind (constructSrc_sat cfg _ _ s w hraw ha.live) (fun _ w1 hw => ?_) (fun e w1 h => ⟨h.1.1, h.2⟩)
  have hsame := hw.same_of_nonmoving ha.nonmoving ha.live
  rw [setSize_bind]
  exact ⟨rfl, (appended_in_place cfg (vals := [srcVal w s]) hv hl rfl hlt hw.ctl
    (fun k hk => match k, hk with | 0, _ => hw.dst)
    (fun b i h => hsame b i (fun e => h ⟨(Prod.mk.inj e).1, by rw [(Prod.mk.inj e).2]; exact ⟨Nat.le_refl _, Nat.lt_succ_self _⟩⟩))).pushed⟩

/-- `emplace_into_reallocation_end`: strong guarantee on every throw, refinement and invariants on normal return -/
theorem emplaceIntoReallocationEnd_sat (cfg : Cfg) (c : Nat) (s : Src α) (w : World α)
    (hv : VecOK cfg w c) (hl : Ledger w) (hfull : (w.hdr c).size = (w.hdr c).cap) (hNmax : (w.hdr c).N ≤ cfg.maxSize)
    (ha : ArgOK cfg w c s) (hstrong : movesFor cfg true = true → cfg.tMove = false) :
    (emplaceIntoReallocationEnd cfg c s w).sat
      (fun r w' => r = (w.hdr c).size ∧ Pushed cfg w w' c (srcVal w s))
      (fun _ w' => Strong w w') := by
  unfold emplaceIntoReallocationEnd
  rw [getV_bind, guard_emplaceIntoReallocationEnd_0_eq]
  by_cases hsz_ne : cfg.maxSize = (w.hdr c).size
  · rw [if_pos (decide_eq_true hsz_ne)]; exact Strong.refl hl
  rw [if_neg (by simpa using hsz_ne)]
  have hcapmax := hv.cap_le_max hNmax
  generalize hncap : newCapacity cfg.maxSize (w.hdr c).cap ((w.hdr c).size + 1) = ncap
  obtain ⟨hge, hle⟩ : (w.hdr c).size + 1 ≤ ncap ∧ ncap ≤ cfg.maxSize := by
    rw [← hncap]; exact newCapacity_bounds _ _ _ (by omega) (by omega)
  have hnd := (hv.next_ne hl).1
  have hN : (w.hdr c).N < ncap := by have := hv.cap_ge; omega
  refine sat_bind (allocate_built_sat cfg c ncap _ w hv hl) (fun nb w2 h2 => ?_) (fun e w2 h => Strong.of_quiet hl h.2)
  obtain ⟨rfl, hb2, hraw2, hoth2⟩ := h2
  have htry : (emplaceReallocEndTry cfg (w.hdr c) s w.next ncap w2).sat
      (fun _ w4 => Built cfg w w4 c ncap ∧
        (∀ i, i < (w.hdr c).size → (w4.mem w.next)[i]? = (w.mem (w.hdr c).data)[i]?) ∧
        (w4.mem w.next)[(w.hdr c).size]? = some (.obj (srcVal w s)) ∧
        (∀ i, (w.hdr c).size < i → i < ncap → IsRaw w4 w.next i))
      (fun _ w' => Strong w w') := by
    unfold emplaceReallocEndTry
    have hlive2 : SrcLive w2 s := by
      intro b i hl'
      obtain ⟨hb', hi'⟩ := ha.inside b i hl'
      obtain ⟨v, hv'⟩ := ha.live b i hl'
      exact ⟨v, by rw [hoth2 b (by rw [hb']; exact Ne.symm hnd)]; exact hv'⟩
    have hsv2 : srcVal w2 s = srcVal w s :=
      srcVal_congr w w2 s (fun b i hl' => by rw [hoth2 b (by rw [(ha.inside b i hl').1]; exact Ne.symm hnd)])
    refine sat_tryCatch (E1 := fun _ w5 => Built cfg w w5 c ncap ∧ (∀ i, i < ncap → IsRaw w5 w.next i) ∧
        (∀ i, i < (w.hdr c).size → (w5.mem (w.hdr c).data)[i]? = (w.mem (w.hdr c).data)[i]?)) ?_ ?_
    · refine sat_bind (constructSrc_sat cfg w.next (w.hdr c).size s w2 (hraw2 _ (by omega)) hlive2) (fun _ w3 hw3 => ?_) ?_
      · have hsame3 := hw3.same_of_nonmoving ha.nonmoving hlive2
        have hb3 : Built cfg w w3 c ncap := hb2.step_new hnd hw3.ctl (fun b i hb' => hsame3 b i (fun h => hb' (Prod.mk.inj h).1))
        have hnew3 : (w3.mem w.next)[(w.hdr c).size]? = some (.obj (srcVal w s)) := by rw [hw3.dst, hsv2]
        have hraw3 : ∀ i, i < ncap → i ≠ (w.hdr c).size → IsRaw w3 w.next i := fun i hi hne =>
          isRaw_of_eq (hsame3 _ i (fun h => hne (Prod.mk.inj h).2)) (hraw2 i hi)
        have hdata3 : ∀ i : Nat, (w3.mem (w.hdr c).data)[i]? = (w.mem (w.hdr c).data)[i]? := by
          intro i
          rw [hsame3 _ i (fun h => hnd (Prod.mk.inj h).1.symm), hoth2 _ (Ne.symm hnd)]
        refine sat_tryCatch (Res.sat_mono (BuiltA.reloc_front_sat true hb3 hnd
          (fun i hi => hraw3 i (by omega) (Nat.ne_of_lt hi))) ?_ (fun _ _ h => h)) ?_
        ·
          intro _ w4 ⟨hb4, hcopy, hrest⟩
          exact ⟨hb4, fun i hi => by rw [hcopy i hi, hdata3], by rw [hrest _ (Nat.le_refl _)]; exact hnew3,
                 fun i h1 h2 => isRaw_of_eq (hrest i (Nat.le_of_lt h1)) (hraw3 i h2 (Nat.ne_of_gt h1))⟩
        · -- relocation threw: destroy the new element, rethrow to the outer handler
          intro e w4 ⟨_, _, hb4, hfront, hrest, hkept⟩
          refine sat_bind (destroyAt_sat cfg w.next (w.hdr c).size w4 ⟨_, by rw [hrest _ (Nat.le_refl _)]; exact hnew3⟩)
            (fun _ w5 h5 => ?_) (fun _ _ h => h.elim)
          obtain ⟨hc5, hr5, hrest5⟩ := h5
          show Built cfg w w5 c ncap ∧ _
          refine ⟨hb4.step_new hnd hc5 (fun b i hb' => hrest5 b i (fun h => hb' (Prod.mk.inj h).1)), fun i hi => ?_, fun i _ => ?_⟩
          · by_cases h1 : i = (w.hdr c).size
            · rw [h1]; exact hr5
            · exact isRaw_of_eq (hrest5 _ i (fun h => h1 (Prod.mk.inj h).2)) (isRaw_of_reloc_failed hfront hrest (hraw3 i hi h1))
          · rw [hrest5 _ i (fun h => hnd (Prod.mk.inj h).1.symm), hkept rfl hstrong i, hdata3 i]
      · -- constructing the new element threw
        intro e w3 ⟨_, hq⟩
        refine ⟨Built.of_quiet hb2 hq, fun i hi => by unfold IsRaw; rw [hq.1]; exact hraw2 i hi, fun i _ => ?_⟩
        rw [hq.1, hoth2 _ (Ne.symm hnd)]
    · -- outer handler: give the block back
      intro e w5 ⟨hb5, hraw5, hex5⟩
      obtain ⟨w6, hd, hs6⟩ := abort_realloc hv hl hb5 hex5 hraw5
      rw [bind_run, hd]
      exact hs6
  refine sat_bind htry (fun _ w4 h4 => ?_) (fun _ _ h => h)
  obtain ⟨hb4, hcopy4, hnew4, hraw4⟩ := h4
  have hfin := finish_realloc (n' := (w.hdr c).size + 1) hv hl hb4 hN hle hge
    (fun i hi => by
      by_cases h : i < (w.hdr c).size
      · exact isObj_of_eq (hcopy4 i h) (hv.objs i h)
      · have : i = (w.hdr c).size := by omega
        subst this; exact ⟨_, hnew4⟩)
    (fun i h1 h2 => hraw4 i (by omega) h2)
  refine sat_bind hfin (fun _ w' h' => ?_) (fun _ _ h => h.elim)
  obtain ⟨hvec, hled, hframe, hub, hhc, hmemn, hnext⟩ := h'
  show (w.hdr c).size = (w.hdr c).size ∧ _
  refine ⟨rfl, hvec, hled, hub, hframe, by rw [hhc], by rw [hhc], ?_, fun h => absurd h (by omega), fun _ => ⟨by rw [hhc], by rw [hhc]; exact hncap.symm⟩⟩
  intro xs hx
  exact holds_append_of_slots (vals := [srcVal w s]) hx rfl (by rw [hhc]; rfl) (by rw [hhc])
    (fun i hi => by rw [hmemn]; exact hcopy4 i hi)
    (fun k hk => match k, hk with | 0, _ => by rw [hmemn]; exact hnew4)

theorem appendElement_sat (cfg : Cfg) (c : Nat) (s : Src α) (w : World α)
    (hv : VecOK cfg w c) (hl : Ledger w) (hNmax : (w.hdr c).N ≤ cfg.maxSize)
    (ha : ArgOK cfg w c s) (hstrong : movesFor cfg true = true → cfg.tMove = false) :
    (appendElement cfg c s w).sat
      (fun r w' => r = (w.hdr c).size ∧ Pushed cfg w w' c (srcVal w s))
      (fun _ w' => Strong w w') := by
  unfold appendElement
  rw [getV_bind, guard_appendElement_0_eq]
  by_cases hlt : (w.hdr c).size < (w.hdr c).cap
  · rw [if_pos (decide_eq_true hlt)]
    exact Res.sat_mono (emplaceIntoCurrentEnd_sat cfg c s w hv hl hlt ha) (fun _ _ h => h) (fun _ _ h => Strong.of_quiet hl h.2)
  · rw [if_neg (by simpa using hlt)]
    exact emplaceIntoReallocationEnd_sat cfg c s w hv hl (Nat.le_antisymm hv.size_le (Nat.not_lt.mp hlt)) hNmax ha hstrong

end SvModel
