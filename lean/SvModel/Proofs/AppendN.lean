/-
Multi-element append: `append_copies`, `append_range` (forward), `resize_with` — the in-place kernel (construct at the
end, self-cleaning) and the reallocating kernel `appendRealloc` (allocate, build the new elements, relocate, roll back).
-/
import SvModel.Proofs.Append
import SvModel.Proofs.Erase
import SvModel.Spec.L0

namespace SvModel
open Gen
variable {α : Type}

structure ArgsOK (cfg : Cfg) (w : World α) (c : Nat) (srcs : List (Src α)) : Prop where
  nonmoving : NonMoving cfg srcs
  live      : ∀ s ∈ srcs, SrcLive w s
  inside    : ∀ s ∈ srcs, ∀ b i, s.loc = some (b, i) → b = (w.hdr c).data ∧ i < (w.hdr c).size

/-- what the append family needs of its sources: not modified by being read, alive, and in blocks that exist already
    (so that the block a reallocation creates is none of them) — own elements (aliasing arguments), elements of ANOTHER
    container (`append (other)`), or values from outside -/
structure SrcsOK (cfg : Cfg) (w : World α) (srcs : List (Src α)) : Prop where
  nonmoving : NonMoving cfg srcs
  live      : ∀ s ∈ srcs, SrcLive w s
  below     : ∀ s ∈ srcs, ∀ b i, s.loc = some (b, i) → b < w.next

theorem ArgsOK.srcs {cfg : Cfg} {w : World α} {c : Nat} {srcs : List (Src α)} (ha : ArgsOK cfg w c srcs) (hv : VecOK cfg w c) (hl : Ledger w) :
    SrcsOK cfg w srcs :=
  ⟨ha.nonmoving, ha.live, fun s hs b i hl' => by rw [(ha.inside s hs b i hl').1]; exact hv.data_lt_next hl⟩

/-- construct `srcs` in the spare capacity at the end; self-cleaning, so a throw leaves the world as it was -/
theorem appendInPlace_core (cfg : Cfg) (c : Nat) (srcs : List (Src α)) (w : World α)
    (hv : VecOK cfg w c) (hl : Ledger w) (hfit : (w.hdr c).size + srcs.length ≤ (w.hdr c).cap) (ha : SrcsOK cfg w srcs) :
    ((uninitGen cfg (w.hdr c).data (w.hdr c).size 0 srcs >>= fun _ => setSize c ((w.hdr c).size + srcs.length)) w).sat
      (fun _ w' => Appended cfg w w' c (srcs.map (srcVal w)))
      (fun e w' => e = .elem ∧ Strong w w') := by
  have hraw : ∀ k, k < srcs.length → IsRaw w (w.hdr c).data ((w.hdr c).size + 0 + k) :=
    fun k hk => hv.raws _ (by omega) (by omega)
  refine sat_bind (uninitGen_nonmoving_sat cfg _ _ srcs 0 w ha.nonmoving ha.live (fun j h => by omega) hraw) (fun _ w1 h1 => ?_) ?_
  · obtain ⟨hc1, hv1, hrest1⟩ := h1
    rw [setSize_run]
    exact appended_in_place cfg hv hl (List.length_map _) hfit hc1
      (fun k hk => by rw [List.getElem_map]; simpa using hv1 k (by simpa using hk))
      (fun b i h => hrest1 b i (by simpa using h))
  · intro e w1 ⟨he, hc1, hr1, hrest1⟩
    refine ⟨he.1, Strong.of_slots hl hc1 (fun b i => ?_)⟩
    by_cases h : b = (w.hdr c).data ∧ (w.hdr c).size ≤ i ∧ i < (w.hdr c).size + 0 + srcs.length
    · have a := hr1 i h.2.1 h.2.2
      have b' := hv.raws i h.2.1 (by omega)
      rw [IsRaw] at a b'; rw [h.1, a, b']
    · exact hrest1 b i h

theorem appendInPlace_sat (cfg : Cfg) (c : Nat) (srcs : List (Src α)) (w : World α)
    (hv : VecOK cfg w c) (hl : Ledger w) (hfit : (w.hdr c).size + srcs.length ≤ (w.hdr c).cap) (ha : SrcsOK cfg w srcs) :
    ((uninitGen cfg (w.hdr c).data (w.hdr c).size 0 srcs >>= fun _ =>
        setSize c ((w.hdr c).size + srcs.length) >>= fun _ => (pure (w.hdr c).size : M α Nat)) w).sat
      (fun r w' => r = (w.hdr c).size ∧ Appended cfg w w' c (srcs.map (srcVal w)))
      (fun e w' => e = .elem ∧ Strong w w') := by
  rw [← bind_assoc_run (uninitGen cfg (w.hdr c).data (w.hdr c).size 0 srcs)
    (fun _ => setSize c ((w.hdr c).size + srcs.length)) (fun _ => (pure (w.hdr c).size : M α Nat)) w]
  exact sat_bind (appendInPlace_core cfg c srcs w hv hl hfit ha) (fun _ _ h => ⟨rfl, h⟩) (fun _ _ h => h)

/-- what every append-style operation guarantees when it exits by an exception:
    strong guarantee under the strong relocation policy, basic guarantee with the header unchanged otherwise -/
def AppendFail (cfg : Cfg) (strong : Bool) (w w' : World α) (c : Nat) : Prop :=
  (strong = true → Strong w w') ∧ Basic cfg w w' c ∧ w'.hdr c = w.hdr c ∧ w'.live = w.live

theorem AppendFail.of_strong {cfg : Cfg} {strong : Bool} {w w' : World α} {c : Nat} (hl : Ledger w) (hv : VecOK cfg w c)
    (h : Strong w w') : AppendFail cfg strong w w' c := ⟨fun _ => h, h.basic hl hv, by rw [h.hdr], h.live⟩

/-- the part of the reallocating append after the new elements `vals` have been built in the new block: relocate the old
    elements in front of them; if that throws, destroy the new elements and give the block back; otherwise switch blocks -/
theorem appendRealloc_finish_sat (cfg : Cfg) (c : Nat) (strong : Bool) (m ncap : Nat) (vals : List (Val α)) (w w3 : World α)
    (hv : VecOK cfg w c) (hl : Ledger w) (hm : vals.length = m)
    (hN : (w.hdr c).N < ncap) (hle : ncap ≤ cfg.maxSize) (hge : (w.hdr c).size + m ≤ ncap)
    (hb3 : Built cfg w w3 c ncap)
    (hnew3 : ∀ k (h : k < vals.length), (w3.mem w.next)[(w.hdr c).size + k]? = some (.obj vals[k]))
    (hraw3 : ∀ i, i < ncap → ¬ ((w.hdr c).size ≤ i ∧ i < (w.hdr c).size + m) → IsRaw w3 w.next i)
    (hdata3 : ∀ i : Nat, (w3.mem (w.hdr c).data)[i]? = (w.mem (w.hdr c).data)[i]?) :
    ((tryCatch (uninitializedMove cfg strong (w.hdr c).data 0 (w.hdr c).size w.next 0)
        (fun e => destroyRange cfg w.next (w.hdr c).size m >>= fun _ =>
                  deallocate (w.hdr c).alloc w.next ncap >>= fun _ => throwE e) >>= fun _ =>
      resetData cfg c w.next ncap ((w.hdr c).size + m) >>= fun _ => (pure (w.hdr c).size : M α Nat)) w3).sat
      (fun r w' => r = (w.hdr c).size ∧ Basic cfg w w' c ∧ (∀ xs, Holds w c xs → Holds w' c (xs ++ vals)) ∧
        w'.hdr c = { w.hdr c with data := w.next, cap := ncap, size := (w.hdr c).size + m })
      (fun e w' => e = .elem ∧ (if movesFor cfg strong then cfg.tMove else (cfg.tCopy || cfg.tMove)) = true ∧
        Basic cfg w w' c ∧ w'.hdr = w.hdr ∧ w'.live = w.live ∧
        (strong = true → (movesFor cfg true = true → cfg.tMove = false) → Strong w w')) := by
  have hnd := (hv.next_ne hl).1
  have hfront3 : ∀ i, i < (w.hdr c).size → IsRaw w3 w.next i := fun i hi =>
    hraw3 i (Nat.lt_of_lt_of_le hi (Nat.le_trans (Nat.le_add_right _ _) hge)) (fun h => Nat.not_le_of_lt hi h.1)
  have hobj3 : ∀ i, (w.hdr c).size ≤ i → i < (w.hdr c).size + m → IsObj w3 w.next i := fun i h1 h2 => by
    have := hnew3 (i - (w.hdr c).size) (by omega)
    rw [Nat.add_sub_cancel' h1] at this
    exact ⟨_, this⟩
  refine sat_bind (sat_tryCatch (BuiltA.reloc_front_sat strong hb3 hnd hfront3) ?_) ?_ (fun _ _ h => h)
  · -- relocation threw: destroy the new elements, give the block back
    intro e w4 ⟨he, hcan, hb4, hfront4, hrest4, hkept4⟩
    refine sat_bind (destroyRange_sat cfg w.next m (w.hdr c).size w4
      (fun i h1 h2 => isObj_of_eq (hrest4 i h1) (hobj3 i h1 h2))) (fun _ w5 h5 => ?_) (fun _ _ h => h.elim)
    obtain ⟨hc5, hr5, hrest5⟩ := h5
    have hb5 : Built cfg w w5 c ncap := hb4.step_new hnd hc5 (fun b i hb' => hrest5 b i (fun h => hb' h.1))
    have hraw5 : ∀ i, i < ncap → IsRaw w5 w.next i := by
      intro i hi
      by_cases h1 : (w.hdr c).size ≤ i ∧ i < (w.hdr c).size + m
      · exact hr5 i h1.1 h1.2
      · exact isRaw_of_eq (hrest5 _ i (fun h => h1 h.2)) (isRaw_of_reloc_failed hfront4 hrest4 (hraw3 i hi h1))
    rw [bind_run]
    by_cases hs : strong = true ∧ (movesFor cfg true = true → cfg.tMove = false)
    · obtain ⟨w6, hd, hs6⟩ := abort_realloc hv hl hb5
        (fun i _ => by rw [hrest5 _ i (fun h => hnd h.1.symm), hkept4 hs.1 hs.2 i, hdata3 i]) hraw5
      rw [hd]
      exact ⟨he, hcan, hs6.basic hl hv, hs6.hdr, hs6.live, fun _ _ => hs6⟩
    · obtain ⟨w6, hd, hbs, hh6, hlv6⟩ := abort_realloc_basic hv hl hb5 hraw5
      rw [hd]
      exact ⟨he, hcan, hbs, hh6, hlv6, fun h1 h2 => absurd ⟨h1, h2⟩ hs⟩
  · intro _ w4 ⟨hb4, hcopy4, hrest4⟩
    have hfin := finish_realloc (n' := (w.hdr c).size + m) hv hl hb4 hN hle hge
      (fun i hi => by
        by_cases h : i < (w.hdr c).size
        · exact isObj_of_eq ((hcopy4 i h).trans (hdata3 i)) (hv.objs i h)
        · exact isObj_of_eq (hrest4 i (Nat.not_lt.mp h)) (hobj3 i (Nat.not_lt.mp h) hi))
      (fun i h1 h2 => isRaw_of_eq (hrest4 i (Nat.le_trans (Nat.le_add_right _ _) h1))
        (hraw3 i h2 (fun h => Nat.not_le_of_lt h.2 h1)))
    refine sat_bind hfin (fun _ w' h' => ?_) (fun _ _ h => h.elim)
    obtain ⟨hvec, hled, hframe, hub, hhc, hmemn, hnext⟩ := h'
    refine ⟨rfl, ⟨hvec, hled, hub, hframe⟩, fun xs hx => ?_, hhc⟩
    exact holds_append_of_slots hx rfl (by rw [hhc, hm]) (by rw [hhc])
      (fun i hi => by rw [hmemn, hcopy4 i hi, hdata3])
      (fun k hk => by rw [hmemn, hrest4 _ (Nat.le_add_right _ _)]; exact hnew3 k hk)

theorem appendRealloc_sat (cfg : Cfg) (c : Nat) (strong : Bool) (srcs : List (Src α)) (w : World α)
    (hv : VecOK cfg w c) (hl : Ledger w)
    (hgrow : (w.hdr c).cap < (w.hdr c).size + srcs.length) (hmax : (w.hdr c).size + srcs.length ≤ cfg.maxSize)
    (ha : SrcsOK cfg w srcs) (hstrong : strong = true → movesFor cfg true = true → cfg.tMove = false) :
    (appendRealloc cfg c strong srcs w).sat
      (fun r w' => r = (w.hdr c).size ∧ Appended cfg w w' c (srcs.map (srcVal w)))
      (fun _ w' => AppendFail cfg strong w w' c) := by
  unfold appendRealloc
  rw [getV_bind]
  generalize hncap : newCapacity cfg.maxSize (w.hdr c).cap ((w.hdr c).size + srcs.length) = ncap
  obtain ⟨hge, hle⟩ : (w.hdr c).size + srcs.length ≤ ncap ∧ ncap ≤ cfg.maxSize := by
    rw [← hncap]; exact newCapacity_bounds _ _ _ hgrow hmax
  have hnd := (hv.next_ne hl).1
  have hN : (w.hdr c).N < ncap := by have := hv.cap_ge; omega
  refine sat_bind (allocate_built_sat cfg c ncap _ w hv hl) (fun nb w2 h2 => ?_)
    (fun e w2 h => AppendFail.of_strong hl hv (Strong.of_quiet hl h.2))
  obtain ⟨rfl, hb2, hraw2, hoth2⟩ := h2
  have hdata2 : w2.mem (w.hdr c).data = w.mem (w.hdr c).data := hoth2 _ (Ne.symm hnd)
  have hlive2 : ∀ s ∈ srcs, SrcLive w2 s := by
    intro s hs b i hl'
    have hb' := ha.below s hs b i hl'
    obtain ⟨v, hv'⟩ := ha.live s hs b i hl'
    exact ⟨v, by rw [hoth2 b (by omega)]; exact hv'⟩
  have hsv2 : ∀ s ∈ srcs, srcVal w2 s = srcVal w s := fun s hs =>
    srcVal_congr w w2 s (fun b i hl' => by rw [hoth2 b (by have := ha.below s hs b i hl'; omega)])
  have hfill := uninitGen_nonmoving_sat cfg w.next (w.hdr c).size srcs 0 w2 ha.nonmoving hlive2 (fun j h => by omega)
    (fun k hk => hraw2 _ (by omega))
  refine sat_bind (sat_tryCatch (Q := fun _ w3 => Built cfg w w3 c ncap ∧
      (∀ k (h : k < (srcs.map (srcVal w)).length), (w3.mem w.next)[(w.hdr c).size + k]? = some (.obj (srcs.map (srcVal w))[k])) ∧
      (∀ i, i < ncap → ¬ ((w.hdr c).size ≤ i ∧ i < (w.hdr c).size + srcs.length) → IsRaw w3 w.next i) ∧
      (∀ i : Nat, (w3.mem (w.hdr c).data)[i]? = (w.mem (w.hdr c).data)[i]?))
      (E := fun _ w' => AppendFail cfg strong w w' c)
      (Res.sat_mono hfill ?_ (fun _ _ h => h)) ?_) ?_ (fun _ _ h => h)
  · intro _ w3 ⟨hc3, hv3, hrest3⟩
    have hb3 : Built cfg w w3 c ncap := hb2.step_new hnd hc3 (fun b i hb' => hrest3 b i (fun h => hb' h.1))
    refine ⟨hb3, ?_, ?_, ?_⟩
    · intro k hk
      have hk' : k < srcs.length := by simpa using hk
      have := hv3 k hk'
      simp only [Nat.add_zero] at this
      rw [this, hsv2 _ (List.getElem_mem hk'), List.getElem_map]
    · intro i hi hn
      exact isRaw_of_eq (hrest3 _ i (by intro ⟨_, h1, h2⟩; exact hn ⟨by omega, by omega⟩)) (hraw2 i hi)
    · intro i
      rw [hrest3 _ i (by intro ⟨h, _, _⟩; exact hnd h.symm), hdata2]
  · -- building threw: everything is raw again
    intro e w3 ⟨_, hc3, hr3, hrest3⟩
    have hb3 : Built cfg w w3 c ncap := hb2.step_new hnd hc3 (fun b i hb' => hrest3 b i (fun h => hb' h.1))
    obtain ⟨w6, hd, hs6⟩ := abort_realloc hv hl hb3
      (fun i _ => by rw [hrest3 _ i (by intro ⟨h, _, _⟩; exact hnd h.symm), hdata2])
      (fun i hi => by
        by_cases h : (w.hdr c).size ≤ i ∧ i < (w.hdr c).size + 0 + srcs.length
        · exact hr3 i h.1 h.2
        · exact isRaw_of_eq (hrest3 _ i (by intro ⟨_, h1, h2⟩; exact h ⟨h1, h2⟩)) (hraw2 i hi))
    rw [bind_run, hd]
    exact AppendFail.of_strong hl hv hs6
  · intro _ w3 ⟨hb3, hnew3, hraw3, hdata3⟩
    refine Res.sat_mono (appendRealloc_finish_sat cfg c strong srcs.length ncap (srcs.map (srcVal w)) w w3 hv hl
      (List.length_map _) hN hle hge hb3 hnew3 hraw3 hdata3) ?_ ?_
    · intro r w' ⟨hr, hbs, hholds, hhc⟩
      exact ⟨hr, hbs, hholds, by rw [hhc]; simp, by rw [hhc], fun h => by simp at h; omega,
             fun _ => ⟨by rw [hhc], by rw [hhc]; simp [hncap]⟩⟩
    · intro _ w' ⟨_, _, hbs, hh, hlv, hst⟩
      exact ⟨fun hs => hst hs (hstrong hs), hbs, by rw [hh], hlv⟩

/-- the common body of append_copies and append_range for forward ranges -/
theorem appendSrcs_sat (cfg : Cfg) (c : Nat) (strong : Bool) (srcs : List (Src α)) (w : World α)
    (hv : VecOK cfg w c) (hl : Ledger w) (hNmax : (w.hdr c).N ≤ cfg.maxSize)
    (ha : SrcsOK cfg w srcs) (hstrong : strong = true → movesFor cfg true = true → cfg.tMove = false) :
    ((if decide ((w.hdr c).cap - (w.hdr c).size < srcs.length) = true then
        (if decide (cfg.maxSize - (w.hdr c).size < srcs.length) = true then throwE .length else appendRealloc cfg c strong srcs)
      else
        uninitGen cfg (w.hdr c).data (w.hdr c).size 0 srcs >>= fun _ =>
        setSize c ((w.hdr c).size + srcs.length) >>= fun _ => pure (w.hdr c).size : M α Nat) w).sat
      (fun r w' => r = (w.hdr c).size ∧ Appended cfg w w' c (srcs.map (srcVal w)))
      (fun _ w' => AppendFail cfg strong w w' c) := by
  have hsl := hv.size_le
  have hcm := hv.cap_le_max hNmax
  by_cases h0 : (w.hdr c).cap - (w.hdr c).size < srcs.length
  · rw [if_pos (decide_eq_true h0)]
    by_cases h1 : cfg.maxSize - (w.hdr c).size < srcs.length
    · rw [if_pos (decide_eq_true h1)]
      exact AppendFail.of_strong hl hv (Strong.refl hl)
    · rw [if_neg (by simpa using h1)]
      exact appendRealloc_sat cfg c strong srcs w hv hl (by omega) (by omega) ha hstrong
  · rw [if_neg (by simpa using h0)]
    exact Res.sat_mono (appendInPlace_sat cfg c srcs w hv hl (by omega) ha) (fun _ _ h => h)
      (fun _ _ h => AppendFail.of_strong hl hv h.2)

theorem argsOK_replicate {cfg : Cfg} {w : World α} {c : Nat} {s : Src α} (n : Nat) (ha : ArgOK cfg w c s) :
    ArgsOK cfg w c (List.replicate n s) :=
  ⟨fun s' hs' => by rw [List.eq_of_mem_replicate hs']; exact ha.nonmoving,
   fun s' hs' => by rw [List.eq_of_mem_replicate hs']; exact ha.live,
   fun s' hs' => by rw [List.eq_of_mem_replicate hs']; exact ha.inside⟩

theorem map_srcVal_replicate (w : World α) (n : Nat) (s : Src α) :
    (List.replicate n s).map (srcVal w) = List.replicate n (srcVal w s) := by simp

/-- append_copies (insert(end, n, x) for n ≠ 1, and the tail of resize) -/
theorem appendCopies_sat (cfg : Cfg) (c count : Nat) (s : Src α) (w : World α)
    (hv : VecOK cfg w c) (hl : Ledger w) (hNmax : (w.hdr c).N ≤ cfg.maxSize) (ha : ArgOK cfg w c s) :
    (appendCopies cfg c count s w).sat
      (fun r w' => r = (w.hdr c).size ∧ Appended cfg w w' c (List.replicate count (srcVal w s)))
      (fun _ w' => AppendFail cfg false w w' c) := by
  unfold appendCopies
  rw [getV_bind]
  rw [guard_appendCopies_0_eq, guard_appendCopies_1_eq]
  have := appendSrcs_sat cfg c false (List.replicate count s) w hv hl hNmax ((argsOK_replicate count ha).srcs hv hl) (fun h => by cases h)
  simp only [List.length_replicate, map_srcVal_replicate] at this
  exact this

theorem argsOK_ext (cfg : Cfg) (w : World α) (c : Nat) (vs : List α) : ArgsOK cfg w c (vs.map Src.ext) :=
  ⟨fun s hs => by obtain ⟨a, _, rfl⟩ := List.mem_map.mp hs; rfl,
   fun s hs => by obtain ⟨a, _, rfl⟩ := List.mem_map.mp hs; intro _ _ h; simp [Src.loc] at h,
   fun s hs => by obtain ⟨a, _, rfl⟩ := List.mem_map.mp hs; intro _ _ h; simp [Src.loc] at h⟩

theorem map_srcVal_ext (w : World α) (vs : List α) : (vs.map Src.ext).map (srcVal w) = vs.map Val.val := by
  rw [List.map_map]; rfl

theorem ext_length_pos {vs : List α} (hne : vs ≠ []) : 0 < (vs.map (Src.ext (α := α))).length := by
  rw [List.length_map]; exact List.length_pos_iff.mpr hne

/-- append_range for forward iterators; `strong` = the public `append` (strong policy), false = insert(end, first, last) -/
theorem appendRangeFwd_sat (cfg : Cfg) (c : Nat) (strong : Bool) (srcs : List (Src α)) (w : World α)
    (hv : VecOK cfg w c) (hl : Ledger w) (hNmax : (w.hdr c).N ≤ cfg.maxSize)
    (ha : SrcsOK cfg w srcs) (hstrong : strong = true → movesFor cfg true = true → cfg.tMove = false) :
    (appendRangeFwd cfg c strong srcs w).sat
      (fun r w' => r = (w.hdr c).size ∧ Appended cfg w w' c (srcs.map (srcVal w)))
      (fun _ w' => AppendFail cfg strong w w' c) := by
  unfold appendRangeFwd
  rw [getV_bind]
  rw [guard_appendRange2_0_eq, guard_appendRange2_1_eq]
  exact appendSrcs_sat cfg c strong srcs w hv hl hNmax ha hstrong

structure Resized (cfg : Cfg) (w w' : World α) (c n : Nat) (x : Val α) : Prop where
  basic : Basic cfg w w' c
  holds : ∀ xs, Holds w c xs → Holds w' c (L0.resize xs n x)
  size  : (w'.hdr c).size = n
  alloc : (w'.hdr c).alloc = (w.hdr c).alloc
  fits  : n ≤ (w.hdr c).cap → (w'.hdr c).data = (w.hdr c).data ∧ (w'.hdr c).cap = (w.hdr c).cap ∧ w'.next = w.next ∧ w'.live = w.live

theorem Appended.resized {cfg : Cfg} {w w' : World α} {c n : Nat} {x : Val α}
    (h : Appended cfg w w' c (List.replicate (n - (w.hdr c).size) x)) (hn : (w.hdr c).size ≤ n) : Resized cfg w w' c n x := by
  have hsz : (w.hdr c).size + (List.replicate (n - (w.hdr c).size) x).length = n := by
    rw [List.length_replicate]; exact Nat.add_sub_cancel' hn
  refine ⟨h.basic, fun xs hx => ?_, by rw [h.size, hsz], h.alloc, fun hf => ?_⟩
  · have := h.holds xs hx
    unfold L0.resize
    rw [List.take_of_length_le (by rw [hx.1]; exact hn), hx.1]; exact this
  · have := h.inplace (by rw [hsz]; exact hf)
    exact ⟨this.1, this.2.1, this.2.2.1, this.2.2.2.1⟩

theorem Shrunk.resized {cfg : Cfg} {w w' : World α} {c n : Nat} {x : Val α} (hv : VecOK cfg w c)
    (h : Shrunk cfg w w' c (List.take n)) (hn : n ≤ (w.hdr c).size) : Resized cfg w w' c n x := by
  refine ⟨h.basic, fun xs hx => ?_, ?_, h.alloc, fun _ => ⟨h.data, h.cap, h.noalloc.1, h.noalloc.2⟩⟩
  · have := h.holds xs hx
    unfold L0.resize
    rw [Nat.sub_eq_zero_of_le (by rw [hx.1]; exact hn)]
    exact (List.append_nil _).symm ▸ this
  · obtain ⟨xs, hx⟩ := hv.holds_exists
    rw [← (h.holds xs hx).1, List.length_take, hx.1]; exact Nat.min_eq_left hn

/-- resize(n) / resize(n, x): strong guarantee on every throw -/
theorem resizeWith_sat (cfg : Cfg) (c newSize : Nat) (s : Src α) (w : World α)
    (hv : VecOK cfg w c) (hl : Ledger w) (ha : ArgOK cfg w c s)
    (hstrong : movesFor cfg true = true → cfg.tMove = false) :
    (resizeWith cfg c newSize s w).sat
      (fun _ w' => Resized cfg w w' c newSize (srcVal w s))
      (fun _ w' => Strong w w') := by
  unfold resizeWith
  rw [guard_resizeWith_0_eq]
  by_cases hz : newSize = 0
  · -- resize(0) = clear (the later branches are no-ops on the emptied container)
    subst hz
    simp only [decide_true, if_true]
    refine sat_bind (eraseAll_sat cfg c w hv hl) (fun _ w1 h1 => ?_) (fun _ _ h => h.elim)
    rw [getV_bind, guard_resizeWith_1_eq, guard_resizeWith_3_eq]
    simp only [Nat.not_lt_zero, decide_false, Bool.false_eq_true, if_false]
    refine Res.sat_mono (eraseToEnd_sat cfg c 0 w1 h1.basic.vec h1.basic.led (Nat.zero_le _)) (fun _ w2 h2 => ?_)
      (fun _ _ h => h.elim)
    exact ((Shrunk.trans hl hv h1 h2).congr (fun _ _ => rfl)).resized hv (Nat.zero_le _)
  · rw [if_neg (by simpa using hz), pure_bind_run, getV_bind,
      guard_resizeWith_1_eq, guard_resizeWith_2_eq, guard_resizeWith_3_eq]
    have hsl := hv.size_le
    have hk : (List.replicate (newSize - (w.hdr c).size) s).length = newSize - (w.hdr c).size := List.length_replicate
    by_cases hgrow : (w.hdr c).cap < newSize
    · rw [if_pos (decide_eq_true hgrow)]
      by_cases hbig : cfg.maxSize < newSize
      · rw [if_pos (decide_eq_true hbig)]; exact Strong.refl hl
      · rw [if_neg (by simpa using hbig)]
        have hap := appendRealloc_sat cfg c true (List.replicate (newSize - (w.hdr c).size) s) w hv hl
          (by rw [hk]; omega) (by rw [hk]; omega) ((argsOK_replicate _ ha).srcs hv hl) (fun _ => hstrong)
        refine sat_bind hap (fun _ w' h => ?_) (fun _ _ h => h.1 rfl)
        have h' := h.2
        rw [map_srcVal_replicate] at h'
        exact h'.resized (by omega)
    · rw [if_neg (by simpa using hgrow)]
      by_cases hmore : (w.hdr c).size < newSize
      · rw [if_pos (decide_eq_true hmore)]
        have hap := appendInPlace_core cfg c (List.replicate (newSize - (w.hdr c).size) s) w hv hl (by rw [hk]; omega)
          ((argsOK_replicate _ ha).srcs hv hl)
        rw [hk, Nat.add_sub_cancel' (Nat.le_of_lt hmore), map_srcVal_replicate] at hap
        exact Res.sat_mono hap (fun _ w' h => h.resized (Nat.le_of_lt hmore)) (fun _ _ h => h.2)
      · rw [if_neg (by simpa using hmore)]
        exact Res.sat_mono (eraseToEnd_sat cfg c newSize w hv hl (Nat.not_lt.mp hmore))
          (fun _ w' h => h.resized hv (Nat.not_lt.mp hmore)) (fun _ _ h => h.elim)

end SvModel
