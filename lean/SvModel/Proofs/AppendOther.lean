/-
`append (const small_vector<T, I>&)` and `append (small_vector<T, I>&&)` (hpp:5815-5845) inside a system of containers:
the elements of ANOTHER container are appended (the destination `c` changes; the source `o` is read, and cleared
afterwards by the rvalue overload).  Strong guarantee (C05): a throw leaves the whole world as it was — in particular
the source is unchanged, none of its elements moved-from — when the rvalue overload copies (the element type is
copyable and its move may throw, `relocate_with_move` false); when it moves, moves cannot throw.
-/
import SvModel.Proofs.AppendN
import SvModel.Proofs.CopyAssign
import SvModel.Proofs.SysInv

namespace SvModel
open Gen
variable {α : Type}

/-- `c.append (o)` -/
theorem SysAll.appendCopy {cfg : Cfg} {w : World α} {U A : List Nat} {c o : Nat} (hs : SysAll cfg w U A)
    (hc : c ∈ A) (ho : o ∈ A) (hoc : o ≠ c) (hstrong : movesFor cfg true = true → cfg.tMove = false) :
    (appendRangeFwd cfg c true (srcsCopy (w.hdr o).data 0 (w.hdr o).size) w).sat
      (fun _ w' => SysAll cfg w' U A ∧ (∀ xs ys, Holds w c xs → Holds w o ys → Holds w' c (xs ++ ys)) ∧
                   (∀ d ∈ A, d ≠ c → ∀ xs, Holds w d xs → Holds w' d xs) ∧ w'.hdr o = w.hdr o)
      (fun _ w' => Strong w w') := by
  have hvc := hs.ok.vec c hc
  have hvo := hs.ok.vec o ho
  have hl := hs.ok.led
  have h := appendRangeFwd_sat cfg c true _ w hvc hl (hs.ok.nmax c hc) (srcsOK_of_other hvo hl) (fun _ => hstrong)
  refine Res.sat_mono h ?_ (fun _ w' hf => hf.1 rfl)
  intro r w' ⟨_, ha⟩
  refine ⟨hs.step hc ha.basic, fun xs ys hx hy => ?_, fun d hd hdc xs hx => hs.ok.holds_other hc ha.basic hd hdc hx,
          ha.basic.frame.hdr_other o hoc⟩
  have := ha.holds xs hx
  rw [srcsCopy_vals hy] at this
  exact this

theorem SysAll.then_eraseAll {cfg : Cfg} {w : World α} {U A : List Nat} {c o : Nat} {β : Type} {m : M α β} {E : Exc → World α → Prop}
    (hc : c ∈ A) (ho : o ∈ A) (hoc : o ≠ c)
    (hm : (m w).sat (fun _ w1 => SysAll cfg w1 U A ∧ (∀ xs ys, Holds w c xs → Holds w o ys → Holds w1 c (xs ++ ys)) ∧
                       (∀ d ∈ A, d ≠ c → d ≠ o → ∀ xs, Holds w d xs → Holds w1 d xs)) E) :
    ((m >>= fun _ => eraseAll cfg o) w).sat
      (fun _ w' => SysAll cfg w' U A ∧ (∀ xs ys, Holds w c xs → Holds w o ys → Holds w' c (xs ++ ys)) ∧ Holds w' o [] ∧
                   (∀ d ∈ A, d ≠ c → d ≠ o → ∀ xs, Holds w d xs → Holds w' d xs)) E := by
  refine sat_bind hm (fun _ w1 ⟨hs1, hcat, hoth⟩ => ?_) (fun _ _ h => h)
  refine Res.sat_mono (eraseAll_sat cfg o w1 (hs1.ok.vec o ho) hs1.ok.led) ?_ (fun _ _ h => h.elim)
  intro _ w' hsh
  obtain ⟨ys1, hy1⟩ := (hs1.ok.vec o ho).holds_exists
  exact ⟨hs1.step ho hsh.basic, fun xs ys hx hy => hs1.ok.holds_other ho hsh.basic hc (Ne.symm hoc) (hcat xs ys hx hy), hsh.holds ys1 hy1,
    fun d hd hdc hdo xs hx => hs1.ok.holds_other ho hsh.basic hd hdo (hoth d hd hdc hdo xs hx)⟩

/-- `c.append (std::move (o))` when the elements are COPIED (copyable element type whose move may throw): the strong
    guarantee covers the source as well — after a throw the world is as before, nothing moved-from, nothing leaked -/
theorem SysAll.appendMoveByCopy {cfg : Cfg} {w : World α} {U A : List Nat} {c o : Nat} (hs : SysAll cfg w U A)
    (hc : c ∈ A) (ho : o ∈ A) (hoc : o ≠ c) (hstrong : movesFor cfg true = true → cfg.tMove = false) :
    ((appendRangeFwd cfg c true (srcsCopy (w.hdr o).data 0 (w.hdr o).size) >>= fun _ => eraseAll cfg o) w).sat
      (fun _ w' => SysAll cfg w' U A ∧ (∀ xs ys, Holds w c xs → Holds w o ys → Holds w' c (xs ++ ys)) ∧ Holds w' o [] ∧
                   (∀ d ∈ A, d ≠ c → d ≠ o → ∀ xs, Holds w d xs → Holds w' d xs))
      (fun _ w' => Strong w w') := by
  exact SysAll.then_eraseAll hc ho hoc (Res.sat_mono (SysAll.appendCopy hs hc ho hoc hstrong)
    (fun _ _ ⟨hs1, hcat, hoth, _⟩ => ⟨hs1, hcat, fun d hd hdc _ => hoth d hd hdc⟩) (fun _ _ h => h))

theorem SysAll.appendOther {cfg : Cfg} {w : World α} {U A : List Nat} {c o : Nat} (hs : SysAll cfg w U A)
    (hc : c ∈ A) (ho : o ∈ A) (hoc : o ≠ c) (hstrong : movesFor cfg true = true → cfg.tMove = false) :
    (SvModel.appendOther cfg c o w).sat
      (fun _ w' => SysAll cfg w' U A ∧ (∀ xs ys, Holds w c xs → Holds w o ys → Holds w' c (xs ++ ys)) ∧
                   (∀ d ∈ A, d ≠ c → ∀ xs, Holds w d xs → Holds w' d xs))
      (fun _ w' => Strong w w') := by
  unfold SvModel.appendOther
  rw [bind_run, getV_run]; simp only []
  refine sat_bind (SysAll.appendCopy hs hc ho hoc hstrong) (fun _ w1 ⟨a, b, c', _⟩ => ?_) (fun _ _ h => h)
  exact ⟨a, b, c'⟩

theorem SysAll.appendOtherMove_copying {cfg : Cfg} {w : World α} {U A : List Nat} {c o : Nat} (hs : SysAll cfg w U A)
    (hc : c ∈ A) (ho : o ∈ A) (hoc : o ≠ c) (hstrong : movesFor cfg true = true → cfg.tMove = false)
    (hmode : relocateWithMove cfg.policy = false) :
    (SvModel.appendOtherMove cfg c o w).sat
      (fun _ w' => SysAll cfg w' U A ∧ (∀ xs ys, Holds w c xs → Holds w o ys → Holds w' c (xs ++ ys)) ∧ Holds w' o [] ∧
                   (∀ d ∈ A, d ≠ c → d ≠ o → ∀ xs, Holds w d xs → Holds w' d xs))
      (fun _ w' => Strong w w') := by
  unfold SvModel.appendOtherMove
  rw [bind_run, getV_run]; simp only []
  rw [hmode]
  simp only [Bool.false_eq_true, if_false]
  exact SysAll.appendMoveByCopy hs hc ho hoc hstrong

end SvModel
