/-
Specification lemmas of the range primitives, for every fault list: destroy_range, the self-cleaning uninitialized_*
loop (`uninitGen`) and relocation (`uninitializedMove`).  The two loops over a list of sources (`uninitGen` here,
`assignGen` in AssignSpec and MoveAssignSpec) go through one Hoare rule, `loop_sat`, with an invariant that says what the
first `k` steps have done: `Filled` for sources that are not modified, `Moved` for the objects of another range.  The
loops that count slots instead (`destroyRange` here, `moveBackward` in AssignSpec, `moveLeft` in Erase, `swapRanges` in
SwapSpec) each have their own induction.
-/
import SvModel.Proofs.PrimSpec
import SvModel.Ops

namespace SvModel
variable {α : Type}

def IsObj (w : World α) (b i : Nat) : Prop := ∃ v, (w.mem b)[i]? = some (.obj v)
def IsRaw (w : World α) (b i : Nat) : Prop := (w.mem b)[i]? = some .raw

theorem isObj_of_eq {w w' : World α} {b i b' i' : Nat} (h : (w'.mem b')[i']? = (w.mem b)[i]?) (ho : IsObj w b i) : IsObj w' b' i' := by
  obtain ⟨v, hv⟩ := ho; exact ⟨v, by rw [h]; exact hv⟩

theorem isRaw_of_eq {w w' : World α} {b i b' i' : Nat} (h : (w'.mem b')[i']? = (w.mem b)[i]?) (ho : IsRaw w b i) : IsRaw w' b' i' := by
  unfold IsRaw at *; rw [h]; exact ho

theorem not_obj_and_raw {w : World α} {b i : Nat} (h1 : IsObj w b i) (h2 : IsRaw w b i) : False := by
  obtain ⟨v, hv⟩ := h1; rw [IsRaw, hv] at h2; cases h2

abbrev Rng (d lo hi : Nat) (b i : Nat) : Prop := b = d ∧ lo ≤ i ∧ i < hi

def SameOut (w w' : World α) (P : Nat → Nat → Prop) : Prop := ∀ b i, ¬ P b i → (w'.mem b)[i]? = (w.mem b)[i]?

theorem SameOut.mono {w w' : World α} {P Q : Nat → Nat → Prop} (h : SameOut w w' P) (hpq : ∀ b i, P b i → Q b i) :
    SameOut w w' Q := fun b i hn => h b i (fun hp => hn (hpq b i hp))

theorem SameOut.trans {a b c : World α} {P : Nat → Nat → Prop} (h1 : SameOut a b P) (h2 : SameOut b c P) : SameOut a c P :=
  fun x i hn => (h2 x i hn).trans (h1 x i hn)

theorem SameOut.widen {w w' : World α} {d lo hi lo' hi' : Nat} (h : SameOut w w' (Rng d lo hi)) (h1 : lo' ≤ lo) (h2 : hi ≤ hi') :
    SameOut w w' (Rng d lo' hi') :=
  h.mono (fun _ _ ⟨a, b, c⟩ => ⟨a, Nat.le_trans h1 b, Nat.lt_of_lt_of_le c h2⟩)

theorem SameOut.lt {w w' : World α} {d lo hi i : Nat} (h : SameOut w w' (Rng d lo hi)) (hi' : i < lo) :
    (w'.mem d)[i]? = (w.mem d)[i]? := h d i (fun ⟨_, a, _⟩ => Nat.not_le_of_lt hi' a)

theorem SameOut.ge {w w' : World α} {d lo hi i : Nat} (h : SameOut w w' (Rng d lo hi)) (hi' : hi ≤ i) :
    (w'.mem d)[i]? = (w.mem d)[i]? := h d i (fun ⟨_, _, a⟩ => Nat.not_le_of_lt a hi')

theorem SameOut.ne {w w' : World α} {d lo hi b : Nat} (h : SameOut w w' (Rng d lo hi)) (hb : b ≠ d) (i : Nat) :
    (w'.mem b)[i]? = (w.mem b)[i]? := h b i (fun ⟨a, _, _⟩ => hb a)

abbrev Rng2 (d lo hi s lo' hi' : Nat) (b i : Nat) : Prop := Rng d lo hi b i ∨ Rng s lo' hi' b i

section
variable {w w' : World α} {d lo hi s lo' hi' : Nat}

theorem SameOut.fst_lt (h : SameOut w w' (Rng2 d lo hi s lo' hi')) (hne : d ≠ s) {i : Nat} (hi : i < lo) :
    (w'.mem d)[i]? = (w.mem d)[i]? := h d i (fun x => x.elim (fun y => Nat.not_le_of_lt hi y.2.1) (fun y => hne y.1))
theorem SameOut.fst_ge (h : SameOut w w' (Rng2 d lo hi s lo' hi')) (hne : d ≠ s) {i : Nat} (hi' : hi ≤ i) :
    (w'.mem d)[i]? = (w.mem d)[i]? := h d i (fun x => x.elim (fun y => Nat.not_le_of_lt y.2.2 hi') (fun y => hne y.1))
theorem SameOut.snd_ge (h : SameOut w w' (Rng2 d lo hi s lo' hi')) (hne : d ≠ s) {i : Nat} (hi : hi' ≤ i) :
    (w'.mem s)[i]? = (w.mem s)[i]? := h s i (fun x => x.elim (fun y => hne y.1.symm) (fun y => Nat.not_le_of_lt y.2.2 hi))
theorem SameOut.ne2 (h : SameOut w w' (Rng2 d lo hi s lo' hi')) {b : Nat} (h1 : b ≠ d) (h2 : b ≠ s) (i : Nat) :
    (w'.mem b)[i]? = (w.mem b)[i]? := h b i (fun x => x.elim (fun y => h1 y.1) (fun y => h2 y.1))

end

/-- the frame of an operation on a range of `cd` and a range of `od`, block by block -/
theorem rest_split {w w' : World α} {cd od lc uc lo uo : Nat}
    (h : ∀ (b i : Nat), ¬ (b = cd ∧ lc ≤ i ∧ i < uc) → ¬ (b = od ∧ lo ≤ i ∧ i < uo) → (w'.mem b)[i]? = (w.mem b)[i]?) (hne : od ≠ cd) :
    (∀ i, i < lc → (w'.mem cd)[i]? = (w.mem cd)[i]?) ∧ (∀ i, uc ≤ i → (w'.mem cd)[i]? = (w.mem cd)[i]?) ∧
    (∀ i, i < lo → (w'.mem od)[i]? = (w.mem od)[i]?) ∧ (∀ i, uo ≤ i → (w'.mem od)[i]? = (w.mem od)[i]?) ∧
    (∀ (b i : Nat), b ≠ cd → b ≠ od → (w'.mem b)[i]? = (w.mem b)[i]?) :=
  ⟨fun i hi => h cd i (fun x => Nat.not_le_of_lt hi x.2.1) (fun x => hne x.1.symm),
   fun i hi => h cd i (fun x => Nat.not_lt_of_le hi x.2.2) (fun x => hne x.1.symm),
   fun i hi => h od i (fun x => hne x.1) (fun x => Nat.not_le_of_lt hi x.2.1),
   fun i hi => h od i (fun x => hne x.1) (fun x => Nat.not_lt_of_le hi x.2.2),
   fun b i h1 h2 => h b i (fun x => h1 x.1) (fun x => h2 x.1)⟩

theorem destroyAt_sat (c : Cfg) (b i : Nat) (w : World α) (h : IsObj w b i) :
    (destroyAt c b i w).sat
      (fun _ w' => Ctl w w' ∧ IsRaw w' b i ∧ ∀ b' i', (b', i') ≠ (b, i) → (w'.mem b')[i']? = (w.mem b')[i']?)
      (fun _ _ => False) := by
  obtain ⟨v, hv⟩ := h
  rw [destroyAt_run c b i w v hv]
  exact set_slot w b i .raw _ (lt_of_get hv)

/-- destroy_range never throws; it turns the live range into raw storage and touches nothing else -/
theorem destroyRange_sat (c : Cfg) (b : Nat) : ∀ (n first : Nat) (w : World α),
    (∀ i, first ≤ i → i < first + n → IsObj w b i) →
    (destroyRange c b first n w).sat
      (fun _ w' => Ctl w w' ∧ (∀ i, first ≤ i → i < first + n → IsRaw w' b i) ∧
                   SameOut w w' (Rng b first (first + n)))
      (fun _ _ => False)
  | 0, first, w, _ => ⟨Ctl.refl w, fun i h1 h2 => absurd h2 (Nat.not_lt_of_le h1), fun _ _ _ => rfl⟩
  | n+1, first, w, hobj => by
    have hlen : first + 1 + n = first + (n + 1) := by rw [Nat.add_assoc, Nat.add_comm 1 n]
    have hin : first < first + (n + 1) := Nat.lt_add_of_pos_right (Nat.succ_pos n)
    show ((destroyAt c b first >>= fun _ => destroyRange c b (first+1) n) w).sat _ _
    refine sat_bind (destroyAt_sat c b first w (hobj first (Nat.le_refl _) hin)) (fun _ w1 ⟨hc1, hr1, hrest1⟩ => ?_) (fun _ _ h => h)
    have hobj1 : ∀ i, first + 1 ≤ i → i < first + 1 + n → IsObj w1 b i := fun i h1 h2 =>
      isObj_of_eq (hrest1 b i (fun e => by cases e; exact Nat.lt_irrefl _ h1)) (hobj i (Nat.le_of_succ_le h1) (hlen ▸ h2))
    refine Res.sat_mono (destroyRange_sat c b n (first+1) w1 hobj1) (fun _ w2 ⟨hc2, hr2, hrest2⟩ => ?_) (fun _ _ h => h)
    refine ⟨hc1.trans hc2, fun i h1 h2 => ?_, fun b' i' hn => ?_⟩
    · rcases Nat.eq_or_lt_of_le h1 with rfl | hlt
      · exact isRaw_of_eq (hrest2 b first (fun ⟨_, h, _⟩ => Nat.lt_irrefl _ h)) hr1
      · exact hr2 i hlt (hlen ▸ h2)
    · rw [hrest2 b' i' (fun ⟨e, h1, h2⟩ => hn ⟨e, Nat.le_of_succ_le h1, hlen ▸ h2⟩)]
      exact hrest1 b' i' (fun e => by cases e; exact hn ⟨rfl, Nat.le_refl _, hin⟩)

theorem destroyAt_nothrow (c : Cfg) (b i : Nat) : NoThrow (destroyAt c b i : M α Unit) := by
  intro w; unfold destroyAt; split <;> exact ⟨_, _, rfl⟩

theorem destroyRange_nothrow (c : Cfg) (b : Nat) : ∀ (n first : Nat), NoThrow (destroyRange c b first n : M α Unit)
  | 0, _ => fun w => ⟨(), w, rfl⟩
  | n+1, first => NoThrow.bind (destroyAt_nothrow c b first) (fun _ => destroyRange_nothrow c b n (first+1))

/-- a range is spelled `k < n → P (a + k)` where a loop counts and `a ≤ i → i < a + n → P i` where slots are compared -/
theorem forall_range {P : Nat → Prop} {a n : Nat} : (∀ k, k < n → P (a + k)) ↔ ∀ i, a ≤ i → i < a + n → P i :=
  ⟨fun h i h1 h2 => Nat.add_sub_cancel' h1 ▸ h (i - a) (by omega),
   fun h k hk => h (a + k) (Nat.le_add_right a k) (Nat.add_lt_add_left hk a)⟩

def NonMoving (c : Cfg) (srcs : List (Src α)) : Prop := ∀ s ∈ srcs, s.moving c = false

theorem srcVal_congr (w w1 : World α) (s : Src α) (h : ∀ b i, s.loc = some (b, i) → (w1.mem b)[i]? = (w.mem b)[i]?) :
    srcVal w1 s = srcVal w s := by
  cases s with
  | ext a => rfl
  | extMove a => rfl
  | value a => rfl
  | copyOf b i => simp only [srcVal]; rw [h b i rfl]
  | moveOf b i => simp only [srcVal]; rw [h b i rfl]

/-- a source is still live in any world that agrees with `w` on its slot (and has the same value there: `srcVal_congr`) -/
theorem SrcLive.of_eq {w w' : World α} {s : Src α} (hl : SrcLive w s)
    (h : ∀ b i, s.loc = some (b, i) → (w'.mem b)[i]? = (w.mem b)[i]?) : SrcLive w' s := fun b i hl' => by
  obtain ⟨v, hv⟩ := hl b i hl'
  exact ⟨v, (h b i hl').trans hv⟩

theorem SameOut.src {w w' : World α} {P : Nat → Nat → Prop} {s : Src α} (h : SameOut w w' P)
    (hout : ∀ b i, s.loc = some (b, i) → ¬ P b i) (hl : SrcLive w s) : SrcLive w' s ∧ srcVal w' s = srcVal w s :=
  ⟨fun b i hl' => isObj_of_eq (h b i (hout b i hl')) (hl b i hl'), srcVal_congr w w' s (fun b i hl' => h b i (hout b i hl'))⟩

theorem srcVal_copyOf (w : World α) (b i : Nat) (v : Val α) (h : (w.mem b)[i]? = some (.obj v)) :
    srcVal w (.copyOf b i) = v := srcVal_of_loc rfl h
theorem srcVal_moveOf (w : World α) (b i : Nat) (v : Val α) (h : (w.mem b)[i]? = some (.obj v)) :
    srcVal w (.moveOf b i) = v := srcVal_of_loc rfl h

theorem WroteFrom.frame {c : Cfg} {w w' : World α} {blk idx : Nat} {s : Src α}
    (hw : WroteFrom c w w' blk idx s) (hlive : SrcLive w s) (b i : Nat) (hne : (b, i) ≠ (blk, idx))
    (hmv : s.moving c = true → s.loc ≠ some (b, i)) : (w'.mem b)[i]? = (w.mem b)[i]? := by
  by_cases hl : s.loc = some (b, i)
  · obtain ⟨v, hv⟩ := hlive b i hl
    have hnm : s.moving c = false := by cases h : s.moving c; rfl; exact absurd hl (hmv h)
    rw [hw.src b i hl hne, hnm, srcVal_of_loc hl hv, hv]; rfl
  · exact hw.rest b i hne hl

theorem WroteFrom.same_of_nonmoving {c : Cfg} {w w' : World α} {blk idx : Nat} {s : Src α}
    (hw : WroteFrom c w w' blk idx s) (hnm : s.moving c = false) (hlive : SrcLive w s) :
    ∀ b i, (b, i) ≠ (blk, idx) → (w'.mem b)[i]? = (w.mem b)[i]? :=
  fun b i hne => hw.frame hlive b i hne (fun h => by rw [hnm] at h; cases h)

theorem loop_sat {step : Nat → Src α → M α Unit} {loop : Nat → List (Src α) → M α Unit}
    (hnil : ∀ d, loop d [] = pure ())
    (hcons : ∀ d s rest, loop d (s :: rest) = step d s >>= fun _ => loop (d + 1) rest)
    {E : Exc → World α → Prop} :
    ∀ (srcs : List (Src α)) (I : Nat → World α → Prop) (d : Nat) (w : World α), I 0 w →
    (∀ k (h : k < srcs.length) w1, I k w1 → (step (d + k) srcs[k] w1).sat (fun _ w2 => I (k + 1) w2) E) →
    (loop d srcs w).sat (fun _ w' => I srcs.length w') E
  | [], I, d, w, h0, _ => by rw [hnil]; exact h0
  | s :: rest, I, d, w, h0, hstep => by
    rw [hcons]
    refine sat_bind (hstep 0 (Nat.zero_lt_succ _) w h0) (fun _ w1 h1 => ?_) (fun _ _ h => h)
    refine loop_sat hnil hcons rest (fun k => I (k + 1)) (d + 1) w1 h1 (fun k hk w2 h2 => ?_)
    have := hstep (k + 1) (Nat.succ_lt_succ hk) w2 h2
    rwa [Nat.add_assoc, Nat.add_comm 1 k]

structure Filled (w w' : World α) (dblk d : Nat) (srcs : List (Src α)) (k : Nat) : Prop where
  ctl  : Ctl w w'
  vals : ∀ j (h : j < srcs.length), j < k → (w'.mem dblk)[d + j]? = some (.obj (srcVal w srcs[j]))
  rest : SameOut w w' (Rng dblk d (d + k))

theorem Filled.zero (w : World α) (dblk d : Nat) (srcs : List (Src α)) : Filled w w dblk d srcs 0 :=
  ⟨Ctl.refl w, fun j _ h => absurd h (Nat.not_lt_zero j), fun _ _ _ => rfl⟩

theorem Filled.quiet {w w1 w2 : World α} {dblk d k : Nat} {srcs : List (Src α)} (h : Filled w w1 dblk d srcs k)
    (hq : Quiet w1 w2) : Filled w w2 dblk d srcs k :=
  ⟨h.ctl.trans hq.2, by rw [hq.1]; exact h.vals, fun b i hn => by rw [hq.1]; exact h.rest b i hn⟩

theorem Filled.step {c : Cfg} {w w1 w2 : World α} {dblk d k : Nat} {srcs : List (Src α)} (h : Filled w w1 dblk d srcs k)
    (hk : k < srcs.length) (hw : WroteFrom c w1 w2 dblk (d + k) srcs[k]) (hnm : srcs[k].moving c = false)
    (hlive : SrcLive w srcs[k]) (hout : ∀ b i, srcs[k].loc = some (b, i) → ¬ (b = dblk ∧ d ≤ i ∧ i < d + k)) :
    Filled w w2 dblk d srcs (k + 1) := by
  have hsame : ∀ b i, srcs[k].loc = some (b, i) → (w1.mem b)[i]? = (w.mem b)[i]? := fun b i hl => h.rest b i (hout b i hl)
  have hfr := hw.same_of_nonmoving hnm (fun b i hl => isObj_of_eq (hsame b i hl) (hlive b i hl))
  refine ⟨h.ctl.trans hw.ctl, fun j hj hjk => ?_, fun b i hn => ?_⟩
  · rcases Nat.lt_succ_iff_lt_or_eq.mp hjk with hlt | rfl
    · rw [hfr dblk (d + j) (fun e => by injection e with _ e; exact Nat.ne_of_lt hlt (Nat.add_left_cancel e))]
      exact h.vals j hj hlt
    · rw [hw.dst, srcVal_congr w w1 _ hsame]
  · rw [hfr b i (fun e => by cases e; exact hn ⟨rfl, Nat.le_add_right d k, Nat.lt_succ_self _⟩)]
    exact h.rest b i (fun ⟨e, h1, h2⟩ => hn ⟨e, h1, Nat.lt_succ_of_lt h2⟩)

/-- one round of `uninitGen` -/
theorem constructOrUnwind_sat (c : Cfg) (dblk dfirst m : Nat) (s : Src α) (w : World α)
    (hraw : IsRaw w dblk (dfirst + m)) (hlive : SrcLive w s) (hobj : ∀ i, dfirst ≤ i → i < dfirst + m → IsObj w dblk i) :
    (tryCatch (constructSrc c dblk (dfirst + m) s) (fun e => destroyRange c dblk dfirst m >>= fun _ => throwE e) w).sat
      (fun _ w' => WroteFrom c w w' dblk (dfirst + m) s)
      (fun e w' => (e = .elem ∧ s.ticks c = true) ∧ Ctl w w' ∧ (∀ i, dfirst ≤ i → i < dfirst + m → IsRaw w' dblk i) ∧
        SameOut w w' (Rng dblk dfirst (dfirst + m))) := by
  refine sat_tryCatch (constructSrc_sat c dblk (dfirst + m) s w hraw hlive) (fun e w1 ⟨he, hm1, hc1⟩ => ?_)
  refine sat_bind (destroyRange_sat c dblk m dfirst w1 (fun i h1 h2 => isObj_of_eq (by rw [hm1]) (hobj i h1 h2)))
    (fun _ w2 ⟨hc2, hr2, hrest2⟩ => ?_) (fun _ _ h => h.elim)
  exact ⟨he, hc1.trans hc2, hr2, fun b i hn => by rw [hrest2 b i hn, hm1]⟩

/-- non-moving construction loop: on success the targets hold the sources' values and NOTHING else changed; on a throw
    the whole range [dfirst, dfirst+done+n) is raw again and nothing else changed -/
theorem uninitGen_nonmoving_sat (c : Cfg) (dblk dfirst : Nat) (srcs : List (Src α)) (done : Nat) (w : World α)
    (hnm : NonMoving c srcs) (hlive : ∀ s ∈ srcs, SrcLive w s)
    (hobj : ∀ j, j < done → IsObj w dblk (dfirst + j))
    (hraw : ∀ k, k < srcs.length → IsRaw w dblk (dfirst + done + k)) :
    (uninitGen c dblk dfirst done srcs w).sat
      (fun _ w' => Ctl w w' ∧
        (∀ k (h : k < srcs.length), (w'.mem dblk)[dfirst + done + k]? = some (.obj (srcVal w srcs[k]))) ∧
        SameOut w w' (Rng dblk (dfirst + done) (dfirst + done + srcs.length)))
      (fun e w' => (e = .elem ∧ ∃ s' ∈ srcs, s'.ticks c = true) ∧ Ctl w w' ∧
        (∀ i, dfirst ≤ i → i < dfirst + done + srcs.length → IsRaw w' dblk i) ∧
        SameOut w w' (Rng dblk dfirst (dfirst + done + srcs.length))) := by
  have hobj' := forall_range.mp hobj
  have hraw' := forall_range.mp hraw
  -- a live source is not one of the raw targets
  have hout : ∀ s ∈ srcs, ∀ b i, s.loc = some (b, i) → ¬ (b = dblk ∧ dfirst + done ≤ i ∧ i < dfirst + done + srcs.length) :=
    fun s hs b i hl ⟨e, h1, h2⟩ => not_obj_and_raw (hlive s hs b i hl) (e ▸ hraw' i h1 h2)
  refine Res.sat_mono (loop_sat (loop := uninitGen c dblk dfirst) (fun _ => rfl) (fun _ _ _ => rfl) srcs
    (fun k w' => Filled w w' dblk (dfirst + done) srcs k) done w (Filled.zero ..) (fun k hk w1 h => ?_))
    (fun _ w' h => ⟨h.ctl, fun k hk => h.vals k hk hk, h.rest⟩) (fun _ _ h => h)
  have hs := List.getElem_mem hk
  have hD := Nat.add_assoc dfirst done k
  have hkl := Nat.add_le_add_left (Nat.le_of_lt hk) (dfirst + done)
  have hout1 : ∀ b i, srcs[k].loc = some (b, i) → ¬ (b = dblk ∧ dfirst + done ≤ i ∧ i < dfirst + done + k) :=
    fun b i hl ⟨e, h1, h2⟩ => hout _ hs b i hl ⟨e, h1, Nat.lt_of_lt_of_le h2 hkl⟩
  refine Res.sat_mono (constructOrUnwind_sat c dblk dfirst (done + k) srcs[k] w1 ?_ ?_ ?_)
    (fun _ w2 hw => h.step hk (hD ▸ hw) (hnm _ hs) (hlive _ hs) hout1)
    (fun e w2 ⟨he, hc2, hr2, hrest2⟩ => ⟨⟨he.1, _, hs, he.2⟩, h.ctl.trans hc2, fun i h1 h2 => ?_, fun b i hn => ?_⟩)
  · rw [← hD]
    exact isRaw_of_eq (h.rest dblk _ (fun ⟨_, _, h3⟩ => Nat.lt_irrefl _ h3)) (hraw k hk)
  · exact fun b i hl => isObj_of_eq (h.rest b i (hout1 b i hl)) (hlive _ hs b i hl)
  · intro i h1 h2
    by_cases hi : i < dfirst + done
    · exact isObj_of_eq (h.rest dblk i (fun ⟨_, h3, _⟩ => Nat.not_le_of_lt hi h3)) (hobj' i h1 hi)
    · obtain ⟨j, rfl⟩ := Nat.exists_eq_add_of_le (Nat.le_of_not_lt hi)
      rw [← hD] at h2
      have hlt := Nat.lt_of_add_lt_add_left h2
      exact ⟨_, h.vals j (Nat.lt_trans hlt hk) hlt⟩
  · by_cases hi : i < dfirst + (done + k)
    · exact hr2 i h1 hi
    · rw [← hD] at hi hrest2
      exact isRaw_of_eq ((hrest2 dblk i (fun ⟨_, _, h3⟩ => hi h3)).trans (h.rest dblk i (fun ⟨_, _, h3⟩ => hi h3)))
        (hraw' i (Nat.le_trans (Nat.le_add_right _ k) (Nat.le_of_not_lt hi)) h2)
  · rw [hrest2 b i (fun ⟨e, h1, h2⟩ => hn ⟨e, h1, Nat.lt_of_lt_of_le h2 (hD ▸ hkl)⟩)]
    exact h.rest b i (fun ⟨e, h1, h2⟩ => hn ⟨e, Nat.le_trans (Nat.le_add_right _ _) h1, Nat.lt_of_lt_of_le h2 hkl⟩)

theorem range_map_succ {β : Type} (f : Nat → β) (i n : Nat) :
    (List.range (n + 1)).map (fun k => f (i + k)) = f i :: (List.range n).map (fun k => f (i + 1 + k)) := by
  rw [List.range_succ_eq_map, List.map_cons, List.map_map]
  congr 1
  apply List.map_congr_left
  intro k _
  show f (i + (k + 1)) = f (i + 1 + k)
  rw [Nat.add_assoc, Nat.add_comm 1 k]

theorem srcsMove_succ (b i n : Nat) : (srcsMove b i (n+1) : List (Src α)) = .moveOf b i :: srcsMove b (i+1) n :=
  range_map_succ (Src.moveOf b) i n
theorem srcsCopy_succ (b i n : Nat) : (srcsCopy b i (n+1) : List (Src α)) = .copyOf b i :: srcsCopy b (i+1) n :=
  range_map_succ (Src.copyOf b) i n

@[simp] theorem srcsMove_length (b i n : Nat) : (srcsMove b i n : List (Src α)).length = n := by simp [srcsMove]
@[simp] theorem srcsCopy_length (b i n : Nat) : (srcsCopy b i n : List (Src α)).length = n := by simp [srcsCopy]
theorem srcsMove_get (b i n k : Nat) (h : k < (srcsMove b i n : List (Src α)).length) :
    (srcsMove b i n : List (Src α))[k] = .moveOf b (i + k) := by simp [srcsMove]
theorem srcsCopy_get (b i n k : Nat) (h : k < (srcsCopy b i n : List (Src α)).length) :
    (srcsCopy b i n : List (Src α))[k] = .copyOf b (i + k) := by simp [srcsCopy]
theorem mem_srcsCopy {b i n : Nat} {s : Src α} (h : s ∈ (srcsCopy b i n : List (Src α))) : ∃ k, k < n ∧ s = .copyOf b (i + k) := by
  simp only [srcsCopy, List.mem_map, List.mem_range] at h
  obtain ⟨k, hk, rfl⟩ := h; exact ⟨k, hk, rfl⟩

theorem srcsCopy_take (b i n k : Nat) (h : k ≤ n) : ((srcsCopy b i n : List (Src α)).take k) = srcsCopy b i k := by
  unfold srcsCopy
  rw [← List.map_take, List.take_range, Nat.min_eq_left h]

theorem srcsCopy_drop (b i n k : Nat) : ((srcsCopy b i n : List (Src α)).drop k) = srcsCopy b (i + k) (n - k) := by
  apply List.ext_getElem
  · simp [srcsCopy]
  · intro j h1 h2
    simp [srcsCopy, Nat.add_assoc]

structure Moved (c : Cfg) (w w' : World α) (b i dblk d k : Nat) : Prop where
  ctl  : Ctl w w'
  dst  : ∀ j, j < k → (w'.mem dblk)[d + j]? = (w.mem b)[i + j]?
  src  : ∀ j, j < k → (w'.mem b)[i + j]? = if c.realMove then some (.obj .husk) else (w.mem b)[i + j]?
  rest : ∀ b' i', ¬ (b' = dblk ∧ d ≤ i' ∧ i' < d + k) → ¬ (b' = b ∧ i ≤ i' ∧ i' < i + k) → (w'.mem b')[i']? = (w.mem b')[i']?

theorem Moved.zero (c : Cfg) (w : World α) (b i dblk d : Nat) : Moved c w w b i dblk d 0 :=
  ⟨Ctl.refl w, fun j h => absurd h (Nat.not_lt_zero j), fun j h => absurd h (Nat.not_lt_zero j), fun _ _ _ _ => rfl⟩

theorem Moved.quiet {c : Cfg} {w w1 w2 : World α} {b i dblk d k : Nat} (h : Moved c w w1 b i dblk d k)
    (hq : Quiet w1 w2) : Moved c w w2 b i dblk d k :=
  ⟨h.ctl.trans hq.2, by rw [hq.1]; exact h.dst, by rw [hq.1]; exact h.src, by rw [hq.1]; exact h.rest⟩

def Apart (b i dblk d n : Nat) : Prop := ∀ j j', j < n → j' < n → (b, i + j) ≠ (dblk, d + j')

theorem Apart.of_obj_raw {w : World α} {b i dblk d n : Nat} (hsrc : ∀ j, j < n → IsObj w b (i + j))
    (hraw : ∀ j, j < n → IsRaw w dblk (d + j)) : Apart b i dblk d n :=
  fun j j' hj hj' e => by injection e with e1 e2; exact not_obj_and_raw (hsrc j hj) (by rw [e1, e2]; exact hraw j' hj')

/-- slot `j` of the first range lies outside the second, in the spelling of the frame clauses -/
theorem Apart.src_out {b i dblk d n : Nat} (h : Apart b i dblk d n) {j m : Nat} (hj : j < n) (hm : m ≤ n) :
    ¬ (b = dblk ∧ d ≤ i + j ∧ i + j < d + m) :=
  fun ⟨e, h1, h2⟩ => by
    obtain ⟨j', hj'⟩ := Nat.exists_eq_add_of_le h1
    exact h j j' hj (Nat.lt_of_lt_of_le (Nat.lt_of_add_lt_add_left (hj' ▸ h2)) hm) (by rw [e, hj'])

theorem Apart.dst_out {b i dblk d n : Nat} (h : Apart b i dblk d n) {j m : Nat} (hj : j < n) (hm : m ≤ n) :
    ¬ (dblk = b ∧ i ≤ d + j ∧ d + j < i + m) :=
  fun ⟨e, h1, h2⟩ => by
    obtain ⟨j', hj'⟩ := Nat.exists_eq_add_of_le h1
    exact h j' j (Nat.lt_of_lt_of_le (Nat.lt_of_add_lt_add_left (hj' ▸ h2)) hm) hj (by rw [e, hj'])

theorem Moved.src_cases {c : Cfg} {w w' : World α} {b i dblk d k n : Nat} (h : Moved c w w' b i dblk d k) (hk : k ≤ n)
    (hap : Apart b i dblk d n) (j : Nat) (hj : j < n) :
    (w'.mem b)[i + j]? = (w.mem b)[i + j]? ∨ (c.realMove = true ∧ (w'.mem b)[i + j]? = some (.obj .husk)) := by
  by_cases hjk : j < k
  · have := h.src j hjk
    cases hrm : c.realMove
    · rw [hrm] at this; exact Or.inl this
    · rw [hrm] at this; exact Or.inr ⟨rfl, this⟩
  · exact Or.inl (h.rest b (i + j) (hap.src_out hj hk) (fun ⟨_, _, h3⟩ => hjk (Nat.lt_of_add_lt_add_left h3)))

theorem isObj_of_same_or_husk {c : Cfg} {w w' : World α} {b x : Nat} (ho : IsObj w b x)
    (h : (w'.mem b)[x]? = (w.mem b)[x]? ∨ (c.realMove = true ∧ (w'.mem b)[x]? = some (.obj .husk))) : IsObj w' b x :=
  h.elim (fun e => isObj_of_eq e ho) (fun e => ⟨_, e.2⟩)

/-- a moved-from slot is still an object -/
theorem isObj_moved {cfg : Cfg} {w w' : World α} {b i b' i' : Nat}
    (h : (w'.mem b')[i']? = if cfg.realMove then some (.obj .husk) else (w.mem b)[i]?) (ho : IsObj w b i) : IsObj w' b' i' := by
  unfold IsObj; rw [h]
  by_cases hrm : cfg.realMove = true
  · exact ⟨.husk, by simp [hrm]⟩
  · obtain ⟨v, hv⟩ := ho; exact ⟨v, by simp [hrm, hv]⟩

theorem Moved.step {c : Cfg} {w w1 w2 : World α} {b i dblk d k n : Nat} (h : Moved c w w1 b i dblk d k) (hk : k < n)
    (hsrc : ∀ j, j < n → IsObj w b (i + j)) (hap : Apart b i dblk d n)
    (hw : WroteFrom c w1 w2 dblk (d + k) (.moveOf b (i + k))) : Moved c w w2 b i dblk d (k + 1) := by
  obtain ⟨v, hv⟩ := hsrc k hk
  have hv1 : (w1.mem b)[i + k]? = some (.obj v) :=
    (h.rest b (i + k) (hap.src_out hk (Nat.le_of_lt hk)) (fun ⟨_, _, h2⟩ => Nat.lt_irrefl _ h2)).trans hv
  have hfr : ∀ b' i', (b', i') ≠ (dblk, d + k) → (b', i') ≠ (b, i + k) → (w2.mem b')[i']? = (w1.mem b')[i']? :=
    fun b' i' h1 h2 => hw.rest b' i' h1 (fun e => h2 (by injection e with e; exact e.symm))
  have hidx : ∀ {a j : Nat}, j < k → ∀ {x : Nat}, (x, a + j) ≠ (x, a + k) :=
    fun hlt _ e => by injection e with _ e; exact Nat.ne_of_lt hlt (Nat.add_left_cancel e)
  refine ⟨h.ctl.trans hw.ctl, fun j hj => ?_, fun j hj => ?_, fun b' i' hn1 hn2 => ?_⟩
  · rcases Nat.lt_succ_iff_lt_or_eq.mp hj with hlt | rfl
    · rw [hfr dblk (d + j) (hidx hlt) (fun e => hap k j hk (Nat.lt_trans hlt hk) e.symm)]
      exact h.dst j hlt
    · rw [hw.dst, srcVal_moveOf w1 b (i + j) v hv1, hv]
  · rcases Nat.lt_succ_iff_lt_or_eq.mp hj with hlt | rfl
    · rw [hfr b (i + j) (hap j k (Nat.lt_trans hlt hk) hk) (hidx hlt)]
      exact h.src j hlt
    · rw [hw.src b (i + j) rfl (hap j j hk hk), srcVal_moveOf w1 b (i + j) v hv1, hv]
      show some (Slot.obj (if c.realMove = true then Val.husk else v)) = _
      cases c.realMove <;> rfl
  · rw [hfr b' i' (fun e => by cases e; exact hn1 ⟨rfl, Nat.le_add_right d k, Nat.lt_succ_self _⟩)
      (fun e => by cases e; exact hn2 ⟨rfl, Nat.le_add_right i k, Nat.lt_succ_self _⟩)]
    exact h.rest b' i' (fun ⟨e, h1, h2⟩ => hn1 ⟨e, h1, Nat.lt_succ_of_lt h2⟩) (fun ⟨e, h1, h2⟩ => hn2 ⟨e, h1, Nat.lt_succ_of_lt h2⟩)

/-- moving construction loop: all `n` objects are moved; on a throw the target range is raw again, every source is
    as it was or moved-from, nothing else changed -/
theorem uninitGen_move_sat (c : Cfg) (dblk dfirst b n i done : Nat) (w : World α)
    (hsrc : ∀ k, k < n → IsObj w b (i + k))
    (hobj : ∀ j, j < done → IsObj w dblk (dfirst + j))
    (hraw : ∀ k, k < n → IsRaw w dblk (dfirst + done + k))
    (hdisj : ∀ j j', j < n → j' < done → (b, i + j) ≠ (dblk, dfirst + j')) :
    (uninitGen c dblk dfirst done (srcsMove b i n) w).sat
      (fun _ w' => Moved c w w' b i dblk (dfirst + done) n)
      (fun e w' => (e = .elem ∧ c.tMove = true) ∧ Ctl w w' ∧
        (∀ i', dfirst ≤ i' → i' < dfirst + done + n → IsRaw w' dblk i') ∧
        (∀ j, j < n →
            (w'.mem b)[i + j]? = (w.mem b)[i + j]? ∨ (c.realMove = true ∧ (w'.mem b)[i + j]? = some (.obj .husk))) ∧
        (∀ b' i', ¬ (b' = dblk ∧ dfirst ≤ i' ∧ i' < dfirst + done + n) → ¬ (b' = b ∧ i ≤ i' ∧ i' < i + n) →
            (w'.mem b')[i']? = (w.mem b')[i']?)) := by
  have hobj' := forall_range.mp hobj
  have hraw' := forall_range.mp hraw
  have hap : Apart b i dblk (dfirst + done) n := Apart.of_obj_raw hsrc hraw
  have hpre : ∀ j, j < n → ¬ (b = dblk ∧ dfirst ≤ i + j ∧ i + j < dfirst + done) :=
    fun j hj ⟨e, h1, h2⟩ => by
      obtain ⟨j', hj'⟩ := Nat.exists_eq_add_of_le h1
      exact hdisj j j' hj (Nat.lt_of_add_lt_add_left (hj' ▸ h2)) (by rw [e, hj'])
  refine Res.sat_mono (loop_sat (loop := uninitGen c dblk dfirst) (fun _ => rfl) (fun _ _ _ => rfl) (srcsMove b i n)
    (fun k w' => Moved c w w' b i dblk (dfirst + done) k) done w (Moved.zero ..) (fun k hk w1 h => ?_))
    (fun _ w' h => srcsMove_length b i n ▸ h) (fun _ _ h => h)
  have hkn : k < n := srcsMove_length b i n ▸ hk
  have hsrc1 := h.src_cases (Nat.le_of_lt hkn) hap
  have hD := Nat.add_assoc dfirst done k
  rw [srcsMove_get]
  refine Res.sat_mono (constructOrUnwind_sat c dblk dfirst (done + k) (.moveOf b (i + k)) w1 ?_ ?_ ?_)
    (fun _ w2 hw => h.step hkn hsrc hap (hD ▸ hw))
    (fun e w2 ⟨he, hc2, hr2, hrest2⟩ => ⟨he, h.ctl.trans hc2, fun x h1 h2 => ?_, fun j hj => ?_, fun b' i' hn1 hn2 => ?_⟩)
  · rw [← hD]
    exact isRaw_of_eq (h.rest dblk _ (fun ⟨_, _, h3⟩ => Nat.lt_irrefl _ h3) (hap.dst_out hkn (Nat.le_of_lt hkn))) (hraw k hkn)
  · intro b' i' hl; cases hl
    exact isObj_of_same_or_husk (hsrc k hkn) (hsrc1 k hkn)
  · intro x h1 h2
    by_cases hx : x < dfirst + done
    · refine isObj_of_eq (h.rest dblk x (fun ⟨_, h3, _⟩ => Nat.not_le_of_lt hx h3) (fun ⟨e, h3, h4⟩ => ?_)) (hobj' x h1 hx)
      obtain ⟨j, rfl⟩ := Nat.exists_eq_add_of_le h3
      exact hpre j (Nat.lt_trans (Nat.lt_of_add_lt_add_left h4) hkn) ⟨e.symm, h1, hx⟩
    · obtain ⟨j, rfl⟩ := Nat.exists_eq_add_of_le (Nat.le_of_not_lt hx)
      rw [← hD] at h2
      have hlt := Nat.lt_of_add_lt_add_left h2
      exact isObj_of_eq (h.dst j hlt) (hsrc j (Nat.lt_trans hlt hkn))
  · by_cases hx : x < dfirst + (done + k)
    · exact hr2 x h1 hx
    · rw [← hD] at hx hrest2
      have hle : dfirst + done ≤ x := Nat.le_trans (Nat.le_add_right _ k) (Nat.le_of_not_lt hx)
      refine isRaw_of_eq ((hrest2 dblk x (fun ⟨_, _, h3⟩ => hx h3)).trans (h.rest dblk x (fun ⟨_, _, h3⟩ => hx h3) (fun ⟨e, h3, h4⟩ => ?_)))
        (hraw' x hle h2)
      obtain ⟨j, rfl⟩ := Nat.exists_eq_add_of_le h3
      obtain ⟨j', hj'⟩ := Nat.exists_eq_add_of_le hle
      exact hap j j' (Nat.lt_trans (Nat.lt_of_add_lt_add_left h4) hkn) (Nat.lt_of_add_lt_add_left (hj' ▸ h2)) (by rw [e, hj'])
  · rw [hrest2 b (i + j) (fun ⟨e, h3, h4⟩ => by
      by_cases hx : i + j < dfirst + done
      · exact hpre j hj ⟨e, h3, hx⟩
      · exact hap.src_out hj (Nat.le_of_lt hkn) ⟨e, Nat.le_of_not_lt hx, hD ▸ h4⟩)]
    exact hsrc1 j hj
  · rw [hrest2 b' i' (fun ⟨e, h1, h2⟩ => hn1 ⟨e, h1, Nat.lt_of_lt_of_le h2 (hD ▸ Nat.add_le_add_left (Nat.le_of_lt hkn) _)⟩)]
    exact h.rest b' i' (fun ⟨e, h1, h2⟩ => hn1 ⟨e, Nat.le_trans (Nat.le_add_right _ _) h1, Nat.lt_of_lt_of_le h2 (Nat.add_le_add_left (Nat.le_of_lt hkn) _)⟩)
      (fun ⟨e, h1, h2⟩ => hn2 ⟨e, h1, Nat.lt_of_lt_of_le h2 (Nat.add_le_add_left (Nat.le_of_lt hkn) _)⟩)

open Gen in
/-- does `uninitialized_move<Policy>` leave its sources moved-from? -/
def movesFor (cfg : Cfg) (strong : Bool) : Bool := !(strong && !relocateWithMove cfg.policy) && cfg.realMove

structure Relocated (cfg : Cfg) (strong : Bool) (w w' : World α) (sblk sidx n dblk didx : Nat) : Prop where
  ctl  : Ctl w w'
  dst  : ∀ k, k < n → (w'.mem dblk)[didx + k]? = (w.mem sblk)[sidx + k]?
  src  : ∀ k, k < n → IsObj w' sblk (sidx + k)
  kept : movesFor cfg strong = false → ∀ k, k < n → (w'.mem sblk)[sidx + k]? = (w.mem sblk)[sidx + k]?
  husk : movesFor cfg strong = true → ∀ k, k < n → (w'.mem sblk)[sidx + k]? = some (.obj .husk)
  same : SameOut w w' (Rng2 dblk didx (didx + n) sblk sidx (sidx + n))

structure RelocFailed (cfg : Cfg) (strong : Bool) (w w' : World α) (sblk sidx n dblk didx : Nat) : Prop where
  can  : (if movesFor cfg strong then cfg.tMove else (cfg.tCopy || cfg.tMove)) = true   -- the relocation has a fault point at all
  ctl  : Ctl w w'
  dst  : ∀ k, k < n → IsRaw w' dblk (didx + k)
  src  : ∀ k, k < n → IsObj w' sblk (sidx + k)
  kept : movesFor cfg strong = false → ∀ k, k < n → (w'.mem sblk)[sidx + k]? = (w.mem sblk)[sidx + k]?
  same : SameOut w w' (Rng2 dblk didx (didx + n) sblk sidx (sidx + n))

section
variable {cfg : Cfg} {strong : Bool} {w w' : World α} {sblk sidx n dblk didx : Nat}

theorem Relocated.rest (h : Relocated cfg strong w w' sblk sidx n dblk didx) (b i : Nat)
    (hd : ¬ (b = dblk ∧ didx ≤ i ∧ i < didx + n)) (hs : ¬ (b = sblk ∧ sidx ≤ i ∧ i < sidx + n)) :
    (w'.mem b)[i]? = (w.mem b)[i]? := h.same b i (fun x => x.elim hd hs)

theorem RelocFailed.rest (h : RelocFailed cfg strong w w' sblk sidx n dblk didx) (b i : Nat)
    (hd : ¬ (b = dblk ∧ didx ≤ i ∧ i < didx + n)) (hs : ¬ (b = sblk ∧ sidx ≤ i ∧ i < sidx + n)) :
    (w'.mem b)[i]? = (w.mem b)[i]? := h.same b i (fun x => x.elim hd hs)

theorem Relocated.dst_at (h : Relocated cfg strong w w' sblk sidx n dblk didx) (i : Nat) (h1 : didx ≤ i) (h2 : i < didx + n) :
    (w'.mem dblk)[i]? = (w.mem sblk)[sidx + (i - didx)]? := by
  obtain ⟨k, rfl⟩ := Nat.exists_eq_add_of_le h1
  rw [Nat.add_sub_cancel_left]
  exact h.dst k (Nat.lt_of_add_lt_add_left h2)

/-- where moving cannot throw, a relocation that failed was copying -/
theorem RelocFailed.nomove (h : RelocFailed cfg strong w w' sblk sidx n dblk didx)
    (hs : movesFor cfg strong = true → cfg.tMove = false) : movesFor cfg strong = false := by
  cases hm : movesFor cfg strong
  · rfl
  · have := h.can
    rw [hm, if_pos rfl, hs hm] at this
    cases this

end

theorem uninitializedMove_sat (cfg : Cfg) (strong : Bool) (sblk sidx n dblk didx : Nat) (w : World α)
    (hsrc : ∀ k, k < n → IsObj w sblk (sidx + k)) (hraw : ∀ k, k < n → IsRaw w dblk (didx + k)) :
    (uninitializedMove cfg strong sblk sidx n dblk didx w).sat
      (fun _ w' => Relocated cfg strong w w' sblk sidx n dblk didx)
      (fun e w' => e = .elem ∧ RelocFailed cfg strong w w' sblk sidx n dblk didx) := by
  have hap : Apart sblk sidx dblk didx n := Apart.of_obj_raw hsrc hraw
  have hnone : ∀ j, j < 0 → IsObj w dblk (didx + j) := fun j h => absurd h (Nat.not_lt_zero j)
  unfold uninitializedMove
  by_cases hcopy : (strong && !Gen.relocateWithMove cfg.policy) = true
  · 
    rw [if_pos hcopy]
    have hmf : movesFor cfg strong = false := by unfold movesFor; rw [hcopy]; rfl
    have hlen := srcsCopy_length (α := α) sblk sidx n
    have hkeep : ∀ {w' : World α}, (∀ b i, ¬ (b = dblk ∧ didx ≤ i ∧ i < didx + n) → (w'.mem b)[i]? = (w.mem b)[i]?) →
        ∀ k, k < n → (w'.mem sblk)[sidx + k]? = (w.mem sblk)[sidx + k]? :=
      fun hrest k hk => hrest sblk (sidx + k) (hap.src_out hk (Nat.le_refl n))
    refine Res.sat_mono (uninitGen_nonmoving_sat cfg dblk didx (srcsCopy sblk sidx n) 0 w ?_ ?_ hnone (fun k hk => hraw k (hlen ▸ hk))) ?_ ?_
    · intro s hs; obtain ⟨k, _, rfl⟩ := mem_srcsCopy hs; rfl
    · intro s hs b i hl; obtain ⟨k, hk, rfl⟩ := mem_srcsCopy hs; cases hl; exact hsrc k hk
    · intro _ w' ⟨hc, hv, hrest⟩
      rw [hlen] at hrest
      refine ⟨hc, fun k hk => ?_, fun k hk => isObj_of_eq (hkeep hrest k hk) (hsrc k hk), fun _ => hkeep hrest,
        fun h => absurd (hmf ▸ h) Bool.false_ne_true, fun b i hn => hrest b i (fun x => hn (Or.inl x))⟩
      obtain ⟨v, hv'⟩ := hsrc k hk
      have := hv k (hlen.symm ▸ hk)
      rw [srcsCopy_get, srcVal_copyOf w _ _ v hv'] at this
      exact this.trans hv'.symm
    · intro e w' ⟨he, hc, hr, hrest⟩
      rw [hlen] at hr hrest
      refine ⟨he.1, ?_, hc, fun k hk => hr (didx + k) (Nat.le_add_right _ _) (Nat.add_lt_add_left hk _),
        fun k hk => isObj_of_eq (hkeep hrest k hk) (hsrc k hk), fun _ => hkeep hrest, fun b i hn => hrest b i (fun x => hn (Or.inl x))⟩
      obtain ⟨s', hs', ht⟩ := he.2
      obtain ⟨k, _, rfl⟩ := mem_srcsCopy hs'
      rw [hmf, show cfg.tCopy = true from ht]; rfl
  · 
    rw [if_neg hcopy]
    have hmf : movesFor cfg strong = cfg.realMove := by
      unfold movesFor; rw [Bool.not_eq_true] at hcopy; rw [hcopy]; rfl
    refine Res.sat_mono (uninitGen_move_sat cfg dblk didx sblk n sidx 0 w hsrc hnone hraw (fun _ j' _ h => absurd h (Nat.not_lt_zero j'))) ?_ ?_
    · intro _ w' h
      exact ⟨h.ctl, h.dst, fun k hk => isObj_of_same_or_husk (hsrc k hk) (h.src_cases (Nat.le_refl n) hap k hk),
        fun hf k hk => (h.src k hk).trans (if_neg (by rw [← hmf, hf]; exact Bool.false_ne_true)),
        fun hf k hk => (h.src k hk).trans (if_pos (by rw [← hmf, hf])),
        fun b i hn => h.rest b i (fun x => hn (Or.inl x)) (fun x => hn (Or.inr x))⟩
    · intro e w' ⟨he, hc, hr, hs, hrest⟩
      refine ⟨he.1, by rw [he.2]; cases movesFor cfg strong; exact Bool.or_true _; rfl, hc,
        fun k hk => hr (didx + k) (Nat.le_add_right _ _) (Nat.add_lt_add_left hk _),
        fun k hk => isObj_of_same_or_husk (hsrc k hk) (hs k hk), fun hf k hk => ?_,
        fun b i hn => hrest b i (fun x => hn (Or.inl x)) (fun x => hn (Or.inr x))⟩
      exact (hs k hk).elim id (fun h => by rw [← hmf, hf] at h; cases h.1)

theorem uninitializedMove_false (cfg : Cfg) (sblk sidx n dblk didx : Nat) :
    (uninitializedMove cfg false sblk sidx n dblk didx : M α Unit) = uninitGen cfg dblk didx 0 (srcsMove sblk sidx n) := by
  unfold uninitializedMove; simp

end SvModel
