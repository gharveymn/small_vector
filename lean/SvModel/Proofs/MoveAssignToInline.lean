/-
Element-wise move assignment into the in-object buffer of a heap-allocated destination (`move_assign_default`, source
inline capacity ≤ destination's, source not stealable, destination on the heap): move-construct the source's elements
into the idle in-object buffer, destroy the old elements, release the old block, switch to the in-object buffer.
-/
import SvModel.Proofs.MoveAssign
import SvModel.Proofs.ToInline

namespace SvModel
open Gen
variable {α : Type}

theorem moveAssignToInline_sat (cfg : Cfg) (c o : Nat) (w : World α) (a' : Nat)
    (hv : VecOK cfg w c) (hl : Ledger w) (hvo : VecOK cfg w o)
    (hheap : (w.hdr c).N < (w.hdr c).cap) (hfit : (w.hdr o).size ≤ (w.hdr c).N)
    (hd : (w.hdr o).data ≠ (w.hdr c).data) (hi : (w.hdr o).data ≠ (w.hdr c).inl) :
    (((uninitializedMove cfg false (w.hdr o).data 0 (w.hdr o).size (w.hdr c).inl 0 >>= fun _ =>
        destroyRange cfg (w.hdr c).data 0 (w.hdr c).size >>= fun _ =>
        deallocate (w.hdr c).alloc (w.hdr c).data (w.hdr c).cap >>= fun _ =>
        setDataPtr c (w.hdr c).inl >>= fun _ => setCapacity c (w.hdr c).N) >>= fun _ =>
      setSize c (w.hdr o).size >>= fun _ => setAlloc c a') w).sat
      (fun _ w' => ∃ wh, Basic cfg w wh o ∧ Basic cfg wh w' c ∧
          w'.hdr c = { w.hdr c with data := (w.hdr c).inl, cap := (w.hdr c).N, size := (w.hdr o).size, alloc := a' } ∧
          (∀ k, k < (w.hdr o).size → (w'.mem (w.hdr c).inl)[k]? = (w.mem (w.hdr o).data)[k]?))
      (fun e w' => e = .elem ∧ ∃ wh, Basic cfg w wh o ∧ Strong wh w') := by
  have hne : (w.hdr c).data ≠ (w.hdr c).inl := (hv.heap_iff).mp hheap
  obtain ⟨hilen, hiraw⟩ := hv.idle hne
  have hmv := uninitializedMove_sat cfg false (w.hdr o).data 0 (w.hdr o).size (w.hdr c).inl 0 w
    (fun k hk => by rw [Nat.zero_add]; exact hvo.objs k hk) (fun k hk => by rw [Nat.zero_add]; exact hiraw k (by omega))
  -- the intermediate world; the same in both outcomes of the relocation
  have husk : ∀ {w1 : World α}, Ctl w w1 → (∀ k, k < (w.hdr o).size → IsObj w1 (w.hdr o).data (0 + k)) →
      (∀ (b i : Nat), ¬ (b = (w.hdr c).inl ∧ 0 ≤ i ∧ i < 0 + (w.hdr o).size) →
        ¬ (b = (w.hdr o).data ∧ 0 ≤ i ∧ i < 0 + (w.hdr o).size) → (w1.mem b)[i]? = (w.mem b)[i]?) →
      Basic cfg w (husked w w1 (w.hdr o).data) o ∧
      (∀ i, (w.hdr o).size ≤ i → (w1.mem (w.hdr c).inl)[i]? = (w.mem (w.hdr c).inl)[i]?) ∧
      (∀ (b i : Nat), b ≠ (w.hdr c).inl → (w1.mem b)[i]? = ((husked w w1 (w.hdr o).data).mem b)[i]?) := by
    intro w1 hc1 hsrc1 hrest1
    rw [Nat.zero_add] at hrest1
    simp only [Nat.zero_add] at hsrc1
    obtain ⟨_, ri, _, ro, rb⟩ := rest_split hrest1 hi
    refine ⟨basic_husked cfg hvo hl (hc1.len _) hsrc1 ro, ri, fun b i hb => ?_⟩
    by_cases hbo : b = (w.hdr o).data
    · rw [hbo, husked_mem_b]
    · rw [husked_mem_other _ _ _ _ hbo]; exact rb b i hb hbo
  simp only [M_bind_assoc]
  refine sat_bind hmv (fun _ w1 hr => ?_) (fun e w1 ⟨he, hf⟩ => ?_)
  · obtain ⟨hb1, ri, hsame⟩ := husk hr.ctl hr.src hr.rest
    have hval1 : ∀ k, k < (w.hdr o).size → (w1.mem (w.hdr c).inl)[k]? = (w.mem (w.hdr o).data)[k]? := fun k hk => by
      have := hr.dst k hk; rwa [Nat.zero_add] at this
    refine Res.sat_mono (toInline_tail cfg c (husked w w1 (w.hdr o).data) w1 (w.hdr o).size a' (hv.husked w1 hd hi) hb1.led hheap hfit
      (hr.ctl.husked _) (fun i => hsame _ i hne)
      (fun i hi' => isObj_of_eq (hval1 i hi') (hvo.objs i hi'))
      (fun i h1 h2 => isRaw_of_eq (ri i h1) (hiraw i h2))
      (fun b i _ hb => hsame b i hb)) ?_ (fun _ _ h => h.elim)
    intro _ w' ⟨hb2, hhc, hinl⟩
    exact ⟨_, hb1, hb2, hhc, fun k hk => (hinl k).trans (hval1 k hk)⟩
  · -- a move constructor threw: relative to the intermediate world nothing happened
    obtain ⟨hb1, ri, hsame⟩ := husk hf.ctl hf.src hf.rest
    refine ⟨he, _, hb1, Strong.of_slots hb1.led (hf.ctl.husked _) (fun b i => ?_)⟩
    by_cases hbi : b = (w.hdr c).inl
    · rw [hbi, husked_mem_other _ _ _ _ (Ne.symm hi)]
      by_cases h : i < (w.hdr o).size
      · have r1 := hf.dst i h
        rw [Nat.zero_add] at r1
        exact r1.slot_eq (hiraw i (by omega))
      · exact ri i (Nat.le_of_not_lt h)
    · exact hsame b i hbi

end SvModel
