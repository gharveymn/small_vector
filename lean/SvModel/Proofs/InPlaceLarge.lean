/-
In-place insertion of k elements before `pos` when the tail (size − pos) is SHORTER than k (hpp:3864-3930, 4014-4052):
the last k − tail new elements are constructed past the old end first, the old tail is relocated behind them, and the
first `tail` new elements are assigned over the old tail positions.  Whatever throws, the container ends up with its old
size (possibly holding moved-from values): `insertInPlaceLarge_sat`.
-/
import SvModel.Proofs.InPlace

namespace SvModel
open Gen
variable {α : Type}

/-- the part after the m new tail elements exist -/
theorem largeBody_sat (cfg : Cfg) (c pos m : Nat) (hs : List (Src α)) {w0 w : World α} {d n : Nat}
    (hm : MidIns w0 w c pos (n + m + (n - pos)) (n + m)) (hd : (w0.hdr c).data = d) (hposn : pos < n)
    (htl : hs.length = n - pos) (hnm : NonMoving cfg hs) (hlive : ∀ s ∈ hs, SrcLive w s)
    (hout : ∀ s ∈ hs, ∀ b i, s.loc = some (b, i) → b ≠ d) :
    ((uninitializedMove cfg false d pos (n - pos) d (n + m) >>= fun _ =>
      setSize c (n + m + (n - pos)) >>= fun _ =>
      tryCatch (assignGen cfg d pos hs) (fun e => rollbackShift cfg c pos (n + m) (n - pos) e)) w).sat
      (fun _ w' => MidIns w0 w' c pos (n + m + (n - pos)) (n + m + (n - pos)) ∧
          (∀ j (h : j < hs.length), (w'.mem d)[pos + j]? = some (.obj (srcVal w hs[j]))) ∧
          (∀ i, pos ≤ i → i < n → (w'.mem d)[i + (n + m - pos)]? = (w.mem d)[i]?) ∧
          (∀ i, n ≤ i → i < n + m → (w'.mem d)[i]? = (w.mem d)[i]?) ∧
          SameOut w w' (Rng d pos (n + m + (n - pos))) ∧ Ctl0 w w')
      (fun _ w' => ∃ n', (n' = n + m ∨ n' = n + m + (n - pos)) ∧ MidIns w0 w' c pos (n + m + (n - pos)) n' ∧
          SameOut w w' (Rng d pos (n + m + (n - pos))) ∧ Ctl0 w w') := by
  refine sat_bind₂ (relocGrow_sat cfg c pos (n - pos) hm hd (Nat.le_refl _) (by omega) (Nat.le_refl _))
    (fun _ w2 ⟨hm2, hdst2, hmid2, hs2, hc2⟩ => ?_) (fun e w2 ⟨_, hm2, hs2, hc2⟩ => ⟨n + m, Or.inl rfl, hm2, hs2, hc2⟩)
  have hsrc := fun s hs' => hs2.src (fun b i hl' h => hout s hs' b i hl' h.1) (hlive s hs')
  refine Res.sat_mono (fillOrRollback_sat cfg c pos (n + m) (n - pos) hs hm2 hd (Nat.le_refl _) (by omega) (by omega) (by omega)
    (by omega) (by omega) (Nat.le_refl _) hnm (fun s hs' => (hsrc s hs').1) hout) ?_ ?_
  · intro _ w4 ⟨hm4, hv4, hs4, hc4⟩
    refine ⟨hm4, fun j hj => by rw [hv4 j hj, (hsrc _ (List.getElem_mem hj)).2], fun i a b => ?_, fun i a b => ?_,
            hs2.trans (hs4.widen (Nat.le_refl _) (by omega)), hc2.trans hc4⟩
    · rw [hs4.ge (by omega)]
      exact hdst2 i a (by omega)
    · rw [hs4.ge (by omega)]
      exact hmid2 i (by omega) b
  · intro _ w4 ⟨n', h1, h2, h3, h4⟩
    exact ⟨n', by omega, h2, hs2.trans (by rw [show n + m + (n - pos) - (n - pos) = n + m by omega] at h1; exact h3), hc2.trans h4⟩

/-- insert_copies / insert_range_helper, in place, tail shorter than the number of inserted elements.
    `hsOf t` are the sources assigned over the old tail positions (`t` = the stack temporary, if any), `headVals` their
    values: they are read when the temporary, if there is one, holds the value of its source, and lie outside the buffer.
    A throw anywhere restores the old size: same buffer, possibly moved-from values, nothing leaked. -/
theorem insertInPlaceLarge_sat (cfg : Cfg) (c pos : Nat) (tailSrcs : List (Src α)) (withTmp : Option (Src α))
    (hsOf : Nat → List (Src α)) (headVals : List (Val α)) (w : World α)
    (hv : VecOK cfg w c) (hl : Ledger w) (hposn : pos < (w.hdr c).size)
    (hroom : (w.hdr c).size + tailSrcs.length + ((w.hdr c).size - pos) ≤ (w.hdr c).cap)
    (hta : ArgsOK cfg w c tailSrcs) (htmpsrc : ∀ s, withTmp = some s → ArgOK cfg w c s)
    (hlen : ∀ t, (hsOf t).length = (w.hdr c).size - pos) (hhl : headVals.length = (w.hdr c).size - pos)
    (hnm : ∀ t, NonMoving cfg (hsOf t))
    (hhead : ∀ t (wX : World α),
      (∀ s, withTmp = some s → t ≠ (w.hdr c).data ∧ (wX.mem t)[0]? = some (.obj (srcVal w s))) →
      (∀ s ∈ hsOf t, SrcLive wX s) ∧ (∀ s ∈ hsOf t, ∀ b i, s.loc = some (b, i) → b ≠ (w.hdr c).data) ∧
        (hsOf t).map (srcVal wX) = headVals) :
    (insertInPlaceLarge cfg c pos tailSrcs withTmp (fun t => assignGen cfg (w.hdr c).data pos (hsOf t)) w).sat
      (fun _ w' => Inserted cfg w w' c pos (headVals ++ tailSrcs.map (srcVal w)) ∧ InsKept w w' c)
      (fun _ w' => InsFail cfg w w' c ∧ w'.hdr c = w.hdr c) := by
  unfold insertInPlaceLarge
  rw [getV_bind]
  have hcls := hv.data_kind hl
  have htmp := hl.ntmp_ok
  have hm0 := MidIns.start hv pos ((w.hdr c).size + tailSrcs.length + ((w.hdr c).size - pos)) hroom
  generalize hn : (w.hdr c).size = n at *
  generalize hdd : (w.hdr c).data = d at *
  generalize hmm : tailSrcs.length = m at *
  have failN : ∀ w', MidIns w w' c pos (n + m + (n - pos)) n → InsFail cfg w w' c ∧ w'.hdr c = w.hdr c :=
    fun w' hm' => ⟨hm'.fail hv hl (by omega) hroom (by omega), by rw [hm'.hdr_c, ← hn]⟩
  rw [← hmm] at hm0 ⊢
  refine sat_bind₂ (constructGrow_sat cfg c tailSrcs hm0 hdd (by omega) (by omega) hta.nonmoving hta.live)
    (fun _ w2 ⟨hm2, htail2, hs2, hc2⟩ => ?_) (fun e w1 ⟨hm1, _⟩ => failN w1 (hmm ▸ hm1))
  rw [hmm] at hm2 ⊢
  have hbody : ∀ (t : Nat) (w3 : World α), MidIns w w3 c pos (n + m + (n - pos)) (n + m) →
      (∀ i : Nat, (w3.mem d)[i]? = (w2.mem d)[i]?) →
      (∀ s, withTmp = some s → t ≠ d ∧ (w3.mem t)[0]? = some (.obj (srcVal w s))) →
      ((uninitializedMove cfg false d pos (n - pos) d (n + m) >>= fun _ =>
        setSize c (n + m + (n - pos)) >>= fun _ =>
        tryCatch (assignGen cfg d pos (hsOf t)) (fun e => rollbackShift cfg c pos (n + m) (n - pos) e)) w3).sat
        (fun _ w' => (∀ (b i : Nat), b ≠ d → (w'.mem b)[i]? = (w3.mem b)[i]?) ∧
            MidIns w w' c pos (n + m + (n - pos)) (n + m + (n - pos)) ∧
            (∀ j (h : j < (headVals ++ tailSrcs.map (srcVal w)).length),
              (w'.mem d)[pos + j]? = some (.obj (headVals ++ tailSrcs.map (srcVal w))[j])) ∧
            (∀ i, pos ≤ i → i < n → (w'.mem d)[i + (n - pos + m)]? = (w.mem d)[i]?))
        (fun _ w' => (∀ (b i : Nat), b ≠ d → (w'.mem b)[i]? = (w3.mem b)[i]?) ∧
            ∃ n', n ≤ n' ∧ n' ≤ n + m + (n - pos) ∧ MidIns w w' c pos (n + m + (n - pos)) n') := by
    intro t w3 hm3 hold3 htv3
    obtain ⟨hlive3, hout3, hvs⟩ := hhead t w3 htv3
    subst hvs
    refine Res.sat_mono (largeBody_sat cfg c pos m (hsOf t) hm3 hdd hposn (hlen t) (hnm t) hlive3 hout3) ?_
      (fun _ w' ⟨n', h1, h2, h3, _⟩ => ⟨fun b i hb => h3.ne hb i, n', by omega, by omega, h2⟩)
    intro _ w' ⟨hm', hhd, hmv, hmid, hs', _⟩
    refine ⟨fun b i hb => hs'.ne hb i, hm', fun j hj => ?_, fun i a b => ?_⟩
    · by_cases hjh : j < ((hsOf t).map (srcVal w3)).length
      · rw [List.getElem_append_left hjh, List.getElem_map]
        exact hhd j (by simpa using hjh)
      · have hjl : ((hsOf t).map (srcVal w3)).length = n - pos := by rw [List.length_map, hlen]
        have hj' : j < n - pos + m := by simpa [hjl, hmm] using hj
        rw [List.getElem_append_right (by omega), List.getElem_map, hmid (pos + j) (by omega) (by omega), hold3]
        have := htail2 (pos + j - n) (by omega)
        rw [show n + (pos + j - n) = pos + j by omega] at this
        rw [this]
        simp only [show j - ((hsOf t).map (srcVal w3)).length = pos + j - n by omega]
    · rw [show i + (n - pos + m) = i + (n + m - pos) by omega, hmv i a b, hold3]
      exact hs2.lt b
  have hout : ∀ (e : Exc) (w3 : World α), (∃ n', n ≤ n' ∧ n' ≤ n + m + (n - pos) ∧ MidIns w w3 c pos (n + m + (n - pos)) n') →
      ((getV c >>= fun v' => destroyRange cfg d n (v'.size - n) >>= fun _ => setSize c n >>= fun _ => (throwE e : M α Unit)) w3).sat
        (fun _ w' => Inserted cfg w w' c pos (headVals ++ tailSrcs.map (srcVal w)) ∧ InsKept w w' c)
        (fun _ w' => InsFail cfg w w' c ∧ w'.hdr c = w.hdr c) := by
    intro e w3 ⟨n', h1, h2, hm3⟩
    rw [getV_bind, hm3.size_eq]
    exact sat_bind₂ (truncate_mid_sat cfg c n (n' - n) hm3 hdd (by omega) (by omega) h2) (fun _ w4 ⟨hm4, _, _⟩ => failN w4 hm4)
      (fun _ _ h => h.elim)
  have hfin : ∀ w', (MidIns w w' c pos (n + m + (n - pos)) (n + m + (n - pos)) ∧
      (∀ j (h : j < (headVals ++ tailSrcs.map (srcVal w)).length),
        (w'.mem d)[pos + j]? = some (.obj (headVals ++ tailSrcs.map (srcVal w))[j])) ∧
      (∀ i, pos ≤ i → i < n → (w'.mem d)[i + (n - pos + m)]? = (w.mem d)[i]?)) →
      Inserted cfg w w' c pos (headVals ++ tailSrcs.map (srcVal w)) ∧ InsKept w w' c := by
    intro w' ⟨hm', hnew, hsuf⟩
    exact hm'.inserted (k := n - pos + m) hv hl hn hdd (by simp [hhl, hmm]) (by omega) (by omega) hroom hnew hsuf
  cases hwt : withTmp with
  | none =>
    exact sat_tryCatch (Res.sat_mono (hbody 0 w2 hm2 (fun _ => rfl) (fun s hs' => by rw [hwt] at hs'; cases hs'))
      (fun _ w' h => hfin w' h.2) (fun _ _ h => h.2)) hout
  | some s =>
    have has := htmpsrc s hwt
    have htmp2 : w2.ntmp % 2 = 0 ∧ 6 ≤ w2.ntmp := ⟨hc2.ntmp.2.trans htmp.1, Nat.le_trans htmp.2 hc2.ntmp.1⟩
    have htc := tmp_not_cls htmp2
    have htd : w2.ntmp ≠ d := fun e => htc (e ▸ hcls)
    have hsrc2 := hs2.src (s := s) (fun b i hl' h => Nat.not_le_of_lt (hn ▸ (has.inside b i hl').2) h.2.1) has.live
    refine sat_tryCatch (withTemp_sat cfg s hm2 (by rw [hdd]; exact hcls) htmp2 has.nonmoving hsrc2.1
      (fun b i hl' => by rw [(has.inside b i hl').1, hdd]; exact htd.symm) (fun w4 hm4 htmp4 hsame4 => ?_)
      (fun e w4 hm4 => ⟨n + m, by omega, by omega, hm4⟩)) hout
    rw [hsrc2.2] at htmp4
    refine Res.sat_mono (sat_finally_tmp cfg (Res.sat_mono (hbody w2.ntmp w4 hm4 (fun i => hsame4 d i htd.symm)
        (fun s' hs' => by rw [hwt] at hs'; cases hs'; exact ⟨htd, htmp4⟩))
        (fun _ w5 ⟨hf, h⟩ => ⟨isObj_of_eq (hf _ 0 htd) ⟨_, htmp4⟩, h⟩)
        (fun _ w5 ⟨hf, h⟩ => ⟨isObj_of_eq (hf _ 0 htd) ⟨_, htmp4⟩, h⟩)) ?_ ?_) (fun _ w' h => hfin w' h) (fun _ _ h => h)
    · intro _ w5 w6 ⟨hm5, hnew5, hsuf5⟩ hc6 hr6
      exact ⟨hm5.tmp hc6 (by rw [hdd]; exact hcls) htc hr6, fun j hj => (hr6 d _ htd.symm).trans (hnew5 j hj),
             fun i a b => (hr6 d _ htd.symm).trans (hsuf5 i a b)⟩
    · intro _ w5 w6 ⟨n', h1, h2, hm5⟩ hc6 hr6
      exact ⟨n', h1, h2, hm5.tmp hc6 (by rw [hdd]; exact hcls) htc hr6⟩

end SvModel
