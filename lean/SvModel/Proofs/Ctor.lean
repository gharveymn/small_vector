/-
Construction and destruction.  `Unborn w c`: the storage of container `c` before its constructor runs / after its
destructor has run — the in-object buffer is N raw slots and nothing else belongs to it.

 * `ctorFill_frame_sat`  `ctorFill` around ANY fill loop that writes the new storage, may change one foreign block and
                    nothing else: on return the container satisfies `VecOK`; if the loop or the allocator throws, the
                    block (if any) has been returned, the ledger is intact and the storage is `Unborn` again.
 * `ctorFill_sat`   its instance for sources that are read only: count / count+value / generator / forward-range / copy
                    construction; the container holds the source values, and on a throw every element constructed so far
                    has been destroyed: nothing leaks, no object outlives the failed constructor (C03, C04, C06).
 * `dtor_sat`       the destructor destroys the size () live elements, returns the heap block, and leaves `Unborn`.
-/
import SvModel.Proofs.AppendN

namespace SvModel
open Gen
variable {α : Type}

structure Unborn (w : World α) (c : Nat) : Prop where
  inl_lt : (w.hdr c).inl < 5
  len    : (w.mem (w.hdr c).inl).length = (w.hdr c).N
  raws   : ∀ i, i < (w.hdr c).N → IsRaw w (w.hdr c).inl i

/-- sources of a constructor: values from outside, or copies of live elements of another block (copy construction) -/
structure CtorSrcs (cfg : Cfg) (w : World α) (c : Nat) (srcs : List (Src α)) : Prop where
  nonmoving : NonMoving cfg srcs
  live      : ∀ s ∈ srcs, SrcLive w s
  apart     : ∀ s ∈ srcs, ∀ b i, s.loc = some (b, i) → b ≠ (w.hdr c).inl ∧ b < w.next

/-- the frame of a constructor of `c` that may change block `b` (the block it moves from) -/
structure CFrameX (w w' : World α) (c b : Nat) : Prop where
  hdr_other : ∀ d, d ≠ c → w'.hdr d = w.hdr d
  hdr_N     : (w'.hdr c).N = (w.hdr c).N
  hdr_inl   : (w'.hdr c).inl = (w.hdr c).inl
  mem_other : ∀ b', b' ≠ (w.hdr c).inl → b' ≠ b → b' < w.next → w'.mem b' = w.mem b'
  owner_old : ∀ b', b' < w.next → w'.owner b' = w.owner b'
  ub        : w'.ub = w.ub
  ntmp      : w'.ntmp = w.ntmp

/-- the frame of a constructor of `c` that only reads its sources: exempting the block that does not exist yet exempts
    nothing -/
abbrev CFrame (w w' : World α) (c : Nat) : Prop := CFrameX w w' c w.next

theorem CFrame.mem_other {w w' : World α} {c : Nat} (h : CFrame w w' c) (b : Nat) (h1 : b ≠ (w.hdr c).inl) (h2 : b < w.next) :
    w'.mem b = w.mem b :=
  CFrameX.mem_other h b h1 (Nat.ne_of_lt h2) h2

theorem CFrameX.refl (w : World α) (c b : Nat) : CFrameX w w c b :=
  ⟨fun _ _ => rfl, rfl, rfl, fun _ _ _ _ => rfl, fun _ _ => rfl, rfl, rfl⟩

theorem CFrameX.set_hdr {w w' : World α} {c b : Nat} (h : CFrameX w w' c b) (v : Vec)
    (hN : v.N = (w.hdr c).N) (hinl : v.inl = (w.hdr c).inl) : CFrameX w { w' with hdr := upd w'.hdr c v } c b :=
  ⟨fun d hd => (upd_other _ _ _ _ hd).trans (h.hdr_other d hd),
   by show ((upd w'.hdr c v) c).N = _; rw [upd_same, hN],
   by show ((upd w'.hdr c v) c).inl = _; rw [upd_same, hinl],
   h.mem_other, h.owner_old, h.ub, h.ntmp⟩

theorem CFrameX.step {w w1 w2 : World α} {c b : Nat} (h : CFrameX w w1 c b) (hh : w2.hdr = w1.hdr)
    (ho : ∀ b', b' < w.next → w2.owner b' = w1.owner b') (hub : w2.ub = w1.ub) (ht : w2.ntmp = w1.ntmp)
    (hm : ∀ b', b' ≠ (w.hdr c).inl → b' ≠ b → b' < w.next → w2.mem b' = w1.mem b') : CFrameX w w2 c b :=
  ⟨fun d hd => by rw [hh]; exact h.hdr_other d hd, by rw [hh]; exact h.hdr_N, by rw [hh]; exact h.hdr_inl,
   fun b' h1 h2 h3 => (hm b' h1 h2 h3).trans (h.mem_other b' h1 h2 h3), fun b' hb => (ho b' hb).trans (h.owner_old b' hb),
   hub.trans h.ub, ht.trans h.ntmp⟩

theorem Unborn.of_frame {w w' : World α} {c b : Nat} (hu : Unborn w c) (hf : CFrameX w w' c b)
    (hlen : (w'.mem (w.hdr c).inl).length = (w.hdr c).N) (hraw : ∀ i, i < (w.hdr c).N → IsRaw w' (w.hdr c).inl i) :
    Unborn w' c :=
  ⟨by rw [hf.hdr_inl]; exact hu.inl_lt, by rw [hf.hdr_inl, hf.hdr_N]; exact hlen,
   fun i hi => by rw [hf.hdr_inl]; rw [hf.hdr_N] at hi; exact hraw i hi⟩

theorem Unborn.of_frame_mem {w w' : World α} {c b : Nat} (hu : Unborn w c) (hf : CFrameX w w' c b)
    (hm : w'.mem (w.hdr c).inl = w.mem (w.hdr c).inl) : Unborn w' c :=
  hu.of_frame hf (by rw [hm]; exact hu.len) (fun i hi => isRaw_of_eq (by rw [hm]) (hu.raws i hi))

theorem Unborn.vecOK_heap {cfg : Cfg} {w w' : World α} {c a n : Nat} (hu : Unborn w c) (hl : Ledger w)
    (hN : (w.hdr c).N < n) (hmax : n ≤ cfg.maxSize)
    (hh : w'.hdr c = { w.hdr c with alloc := a, data := w.next, cap := n, size := n })
    (hlen : (w'.mem w.next).length = n) (hobj : ∀ i, i < n → IsObj w' w.next i)
    (hlive : w.next ∈ w'.live) (hown : w'.owner w.next = a)
    (hinl : w'.mem (w.hdr c).inl = w.mem (w.hdr c).inl) : VecOK cfg w' c := by
  have hnI : w.next ≠ (w.hdr c).inl := by have := hl.next_ok; have := hu.inl_lt; omega
  refine ⟨?_, ?_, ?_, ?_, ?_, ?_, ?_, ?_, ?_, ?_⟩ <;> rw [hh] <;> simp only []
  · exact Nat.le_refl _
  · exact Nat.le_of_lt hN
  · exact Nat.le_trans hmax (Nat.le_max_left _ _)
  · exact ⟨fun h => by omega, fun h => absurd h hnI⟩
  · exact hu.inl_lt
  · exact hlen
  · exact hobj
  · intro i h1 h2; exact absurd h2 (Nat.not_lt.mpr h1)
  · intro _; exact ⟨hlive, hown⟩
  · intro _; exact ⟨by rw [hinl]; exact hu.len, fun i hi => isRaw_of_eq (by rw [hinl]) (hu.raws i hi)⟩

theorem Unborn.vecOK_inline {cfg : Cfg} {w w' : World α} {c a n : Nat} (hu : Unborn w c) (hn : n ≤ (w.hdr c).N)
    (hh : w'.hdr c = { w.hdr c with alloc := a, cap := (w.hdr c).N, data := (w.hdr c).inl, size := n })
    (hlen : (w'.mem (w.hdr c).inl).length = (w.hdr c).N) (hobj : ∀ i, i < n → IsObj w' (w.hdr c).inl i)
    (hraw : ∀ i, n ≤ i → i < (w.hdr c).N → IsRaw w' (w.hdr c).inl i) : VecOK cfg w' c :=
  VecOK.mk_inline (v := { w.hdr c with alloc := a }) hh hn hu.inl_lt hlen hobj hraw

theorem ctorAllocate_sat (cfg : Cfg) (a n : Nat) (checked : Bool) (w : World α) (hk : checked = false → n ≤ cfg.maxSize) :
    ((if checked = true then checkedAllocate cfg a n else allocate cfg a n) w).sat
      (fun nb w' => n ≤ cfg.maxSize ∧ nb = w.next ∧ w'.mem = upd w.mem w.next (List.replicate n .raw) ∧
          w'.owner = upd w.owner w.next a ∧ w'.live = w.next :: w.live ∧ w'.next = w.next + 2 ∧ w'.hdr = w.hdr ∧
          w'.ntmp = w.ntmp ∧ w'.ub = w.ub)
      (fun e w' => Quiet w w' ∧ (e = .length → cfg.maxSize < n ∧ checked = true)) := by
  cases hch : checked
  · simp only [Bool.false_eq_true, if_false]
    exact Res.sat_mono (allocate_sat cfg a n w) (fun _ _ h => ⟨hk hch, h⟩)
      (fun e _ h => ⟨h.2, fun he => by rw [h.1] at he; cases he⟩)
  · simp only [if_true]
    unfold checkedAllocate
    rw [guard_checkedAllocate_0_eq]
    by_cases hm : cfg.maxSize < n
    · rw [if_pos (decide_eq_true hm)]
      exact ⟨Quiet.refl w, fun _ => ⟨hm, trivial⟩⟩
    · rw [if_neg (by simpa using hm)]
      exact Res.sat_mono (allocate_sat cfg a n w) (fun _ _ h => ⟨by omega, h⟩)
        (fun e _ h => ⟨h.2, fun he => by rw [h.1] at he; cases he⟩)

/-- what the fill loop of a constructor does to memory: it writes the first `n` slots of block `d`, it may change block
    `b` (the source of a relocation), and nothing else -/
structure FillFrame (w w' : World α) (d b n : Nat) : Prop where
  ctl  : Ctl w w'
  rest : ∀ b' i, ¬ (b' = d ∧ i < n) → b' ≠ b → (w'.mem b')[i]? = (w.mem b')[i]?

/-- `R` and `F` speak of memory only, `F` not of the new block. -/
theorem ctorFill_frame_sat (cfg : Cfg) (c a : Nat) (checked : Bool) (srcs : List (Src α)) (w : World α) (b : Nat)
    (R : Nat → World α → Prop) (F : World α → Prop)
    (hu : Unborn w c) (hl : Ledger w) (hk : checked = false → srcs.length ≤ cfg.maxSize) (hbi : b ≠ (w.hdr c).inl)
    (hR : ∀ d w5 w6, w6.mem = w5.mem → R d w5 → R d w6)
    (hF : ∀ w5 w6, (∀ b', b' ≠ w.next → w6.mem b' = w5.mem b') → F w5 → F w6) (hF0 : F w)
    (hfill : ∀ d (w4 : World α), (∀ b', b' ≠ w.next → w4.mem b' = w.mem b') → (∀ k, k < srcs.length → IsRaw w4 d k) →
      (uninitGen cfg d 0 0 srcs w4).sat
        (fun _ w5 => FillFrame w4 w5 d b srcs.length ∧ (∀ k, k < srcs.length → IsObj w5 d k) ∧ R d w5)
        (fun e w5 => e ≠ .length ∧ FillFrame w4 w5 d b srcs.length ∧ (∀ k, k < srcs.length → IsRaw w5 d k) ∧ F w5)) :
    (ctorFill cfg c a checked srcs w).sat
      (fun _ w' => VecOK cfg w' c ∧ Ledger w' ∧ CFrameX w w' c b ∧
          (w'.live = if (w.hdr c).N < srcs.length then w.next :: w.live else w.live) ∧
          (w'.hdr c).alloc = a ∧ (w'.hdr c).size = srcs.length ∧
          (w'.hdr c).cap = (if (w.hdr c).N < srcs.length then srcs.length else (w.hdr c).N) ∧
          (w'.hdr c).data = (if (w.hdr c).N < srcs.length then w.next else (w.hdr c).inl) ∧ R (w'.hdr c).data w')
      (fun e w' => Unborn w' c ∧ Ledger w' ∧ CFrameX w w' c b ∧ w'.live = w.live ∧
          (e = .length → cfg.maxSize < srcs.length ∧ checked = true) ∧ F w') := by
  unfold ctorFill
  rw [bind_run, setAlloc_run]
  simp only []
  rw [bind_run, getV_run]
  simp only [upd_same]
  have hl1 := hl.with_hdr (upd w.hdr c { w.hdr c with alloc := a })
  have hf1 := (CFrameX.refl w c b).set_hdr { w.hdr c with alloc := a } rfl rfl
  have hnI : w.next ≠ (w.hdr c).inl := by have := hl.next_ok; have := hu.inl_lt; omega
  by_cases hbig : (w.hdr c).N < srcs.length
  · rw [if_pos hbig]
    refine sat_bind (ctorAllocate_sat cfg a srcs.length checked _ hk) (fun nb w2 h2 => ?alloc) (fun e w2 hth => ?noalloc)
    case noalloc =>
      obtain ⟨hq, hlen⟩ := hth
      have hf2 : CFrameX w w2 c b :=
        hf1.step hq.2.hdr (fun b' _ => by rw [hq.2.owner]) hq.2.ub hq.2.ntmp (fun b' _ _ _ => by rw [hq.1])
      exact ⟨hu.of_frame_mem hf2 (by rw [hq.1]), hl1.of_ctl hq.2, hf2, hq.2.live, hlen, hF w w2 (fun b' _ => by rw [hq.1]) hF0⟩
    obtain ⟨hkm, hnb, hm2, ho2, hlv2, hn2, hh2, ht2, hub2⟩ := h2
    subst hnb
    have hoth2 : ∀ b', b' ≠ w.next → w2.mem b' = w.mem b' := fun b' hb => by rw [hm2]; exact upd_other _ _ _ _ hb
    have hl2 : Ledger w2 := hl1.alloc hn2 ht2 hlv2 (fun b hb _ => by rw [hoth2 b hb])
    have hf2 : CFrameX w w2 c b :=
      hf1.step hh2 (fun b' hb => by rw [ho2]; exact upd_other _ _ _ _ (Nat.ne_of_lt hb)) hub2 ht2
        (fun b' _ _ hb => hoth2 b' (Nat.ne_of_lt hb))
    rw [bind_run, setDataPtr_run]
    simp only []
    rw [bind_run, setCapacity_run]
    simp only [upd_same, upd_upd]
    have hf4 := hf2.set_hdr { w2.hdr c with data := w.next, cap := srcs.length } hf2.hdr_N hf2.hdr_inl
    have mid : ∀ {w4 w5 : World α}, FillFrame w4 w5 w.next b srcs.length →
        w4.mem = w2.mem → w4.owner = w2.owner → w4.live = w2.live → Ledger w4 → CFrameX w w4 c b →
        CFrameX w w5 c b ∧ Ledger w5 ∧ w5.live = w.next :: w.live ∧ w5.owner w.next = a ∧
          (w5.mem w.next).length = srcs.length ∧ w5.mem (w.hdr c).inl = w.mem (w.hdr c).inl := by
      intro w4 w5 hff hm4 ho4 hlv4 hl4 hf4
      refine ⟨hf4.step hff.ctl.hdr (fun b' _ => by rw [hff.ctl.owner]) hff.ctl.ub hff.ctl.ntmp
                (fun b' _ h2 h3 => List.ext_getElem? (fun i => hff.rest b' i (fun h => by omega) h2)),
              hl4.of_ctl hff.ctl, by rw [hff.ctl.live, hlv4, hlv2], by rw [hff.ctl.owner, ho4, ho2, upd_same],
              by rw [hff.ctl.len, hm4, hm2, upd_same, List.length_replicate], ?_⟩
      rw [List.ext_getElem? (fun i => hff.rest _ i (fun h => hnI h.1.symm) (Ne.symm hbi)), hm4]
      exact hoth2 _ (Ne.symm hnI)
    refine sat_bind (sat_tryCatch (hfill w.next { w2 with hdr := _ } hoth2
        (fun k hk => by unfold IsRaw; show (w2.mem w.next)[k]? = _; rw [hm2]; simp [hk])) ?_) ?_ (fun _ _ h => h)
    · intro e w5 ⟨hne, hff, hraw5, hF5⟩
      obtain ⟨hf5, hl5, hlv5, hown5, hlen5, hinl5⟩ := mid hff rfl rfl rfl (hl2.with_hdr _) hf4
      obtain ⟨w6, hd, hh6, ho6, hub6, ht6, hn6, hlv6, hnil6, hm6⟩ :=
        deallocate_ok a w.next srcs.length w5 (by rw [hlv5]; exact List.mem_cons_self) hlen5 hraw5 hown5
      rw [bind_run, hd]
      have hf6 := hf5.step hh6 (fun b' _ => by rw [ho6]) hub6 ht6 (fun b' _ _ h3 => hm6 b' (Nat.ne_of_lt h3))
      exact ⟨hu.of_frame_mem hf6 ((hm6 _ (Ne.symm hnI)).trans hinl5), hl5.dealloc w.next hn6 ht6 hlv6 hnil6 (fun b hb _ => by rw [hm6 b hb]), hf6,
             by rw [hlv6, hlv5, List.erase_cons_head], fun h => absurd h hne, hF w5 w6 hm6 hF5⟩
    · intro _ w5 ⟨hff, hobj5, hR5⟩
      obtain ⟨hf5, hl5, hlv5, hown5, hlen5, hinl5⟩ := mid hff rfl rfl rfl (hl2.with_hdr _) hf4
      rw [setSize_run]
      show VecOK cfg _ c ∧ _
      simp only []
      have hhc6 : (upd w5.hdr c { w5.hdr c with size := srcs.length }) c =
          { w.hdr c with alloc := a, data := w.next, cap := srcs.length, size := srcs.length } := by
        simp only [upd_same, hff.ctl.hdr, hh2]
      exact ⟨hu.vecOK_heap hl hbig hkm hhc6 hlen5 hobj5 (by show w.next ∈ w5.live; rw [hlv5]; exact List.mem_cons_self) hown5 hinl5,
             hl5.with_hdr _, hf5.set_hdr _ hf5.hdr_N hf5.hdr_inl, by rw [if_pos hbig]; exact hlv5, by rw [hhc6], by rw [hhc6],
             by rw [hhc6, if_pos hbig], by rw [hhc6, if_pos hbig], by rw [hhc6]; exact hR _ w5 _ rfl hR5⟩
  · rw [if_neg hbig]
    rw [bind_run, setToInlineStorage_run]
    simp only [upd_same, upd_upd]
    have hf2 := (CFrameX.refl w c b).set_hdr { w.hdr c with alloc := a, cap := (w.hdr c).N, data := (w.hdr c).inl } rfl rfl
    refine sat_bind (hfill (w.hdr c).inl { w with hdr := _ } (fun _ _ => rfl) (fun k hk => hu.raws k (by omega)))
      (fun _ w3 ⟨hff, hobj3, hR3⟩ => ?_) (fun e w3 ⟨hne, hff, hraw3, hF3⟩ => ?_)
    all_goals
      have hf3 : CFrameX w w3 c b := hf2.step hff.ctl.hdr (fun b' _ => by rw [hff.ctl.owner]) hff.ctl.ub hff.ctl.ntmp
        (fun b' h1 h2 _ => List.ext_getElem? (fun i => hff.rest b' i (fun h => h1 h.1) h2))
      have hl3 : Ledger w3 := (hl.with_hdr _).of_ctl hff.ctl
    · rw [setSize_run]
      show VecOK cfg _ c ∧ _
      simp only []
      have hhc4 : (upd w3.hdr c { w3.hdr c with size := srcs.length }) c =
          { w.hdr c with alloc := a, cap := (w.hdr c).N, data := (w.hdr c).inl, size := srcs.length } := by
        simp only [upd_same, hff.ctl.hdr]
      exact ⟨hu.vecOK_inline (Nat.le_of_not_lt hbig) hhc4 ((hff.ctl.len _).trans hu.len) hobj3
               (fun i h1 h2 => isRaw_of_eq (hff.rest _ i (fun h => Nat.not_lt.mpr h1 h.2) (Ne.symm hbi)) (hu.raws i h2)),
             hl3.with_hdr _, hf3.set_hdr _ hf3.hdr_N hf3.hdr_inl, by rw [if_neg hbig]; exact hff.ctl.live, by rw [hhc4], by rw [hhc4],
             by rw [hhc4, if_neg hbig], by rw [hhc4, if_neg hbig], by rw [hhc4]; exact hR _ w3 _ rfl hR3⟩
    · refine ⟨hu.of_frame hf3 ((hff.ctl.len _).trans hu.len) (fun i hi => ?_), hl3, hf3, hff.ctl.live, fun h => absurd h hne, hF3⟩
      by_cases h : i < srcs.length
      · exact hraw3 i h
      · exact isRaw_of_eq (hff.rest _ i (fun h' => h h'.2) (Ne.symm hbi)) (hu.raws i hi)

/-- construction from sources that are read, not moved from: count / count+value / generator / forward-range / copy -/
theorem ctorFill_sat (cfg : Cfg) (c a : Nat) (checked : Bool) (srcs : List (Src α)) (w : World α)
    (hu : Unborn w c) (hl : Ledger w)
    (hk : checked = false → srcs.length ≤ cfg.maxSize) (hs : CtorSrcs cfg w c srcs) :
    (ctorFill cfg c a checked srcs w).sat
      (fun _ w' => VecOK cfg w' c ∧ Ledger w' ∧ Holds w' c (srcs.map (srcVal w)) ∧ (w'.hdr c).alloc = a ∧
          (w'.live = if (w.hdr c).N < srcs.length then w.next :: w.live else w.live) ∧
          (w'.hdr c).N = (w.hdr c).N ∧ (w'.hdr c).cap = (if (w.hdr c).N < srcs.length then srcs.length else (w.hdr c).N) ∧
          (w'.hdr c).data = (if (w.hdr c).N < srcs.length then w.next else (w.hdr c).inl) ∧ CFrame w w' c)
      (fun e w' => Unborn w' c ∧ Ledger w' ∧ w'.live = w.live ∧ (e = .length → cfg.maxSize < srcs.length ∧ checked = true) ∧ CFrame w w' c) := by
  have hnI : w.next ≠ (w.hdr c).inl := by have := hl.next_ok; have := hu.inl_lt; omega
  refine Res.sat_mono (ctorFill_frame_sat cfg c a checked srcs w w.next
    (fun d w5 => ∀ k (h : k < srcs.length), (w5.mem d)[k]? = some (.obj (srcVal w srcs[k]))) (fun _ => True)
    hu hl hk hnI (fun d w5 w6 hm h => by rw [hm]; exact h) (fun _ _ _ _ => trivial) trivial ?_) ?_ ?_
  · -- the sources lie in old blocks, which the worlds of the fill loop share with `w`
    intro d w4 hoth hraw
    have hag : ∀ s ∈ srcs, ∀ b i, s.loc = some (b, i) → (w4.mem b)[i]? = (w.mem b)[i]? := fun s hs' b i hl' => by
      rw [hoth b (Nat.ne_of_lt (hs.apart s hs' b i hl').2)]
    refine Res.sat_mono (uninitGen_nonmoving_sat cfg d 0 srcs 0 w4 hs.nonmoving (fun s hs' => (hs.live s hs').of_eq (hag s hs'))
      (fun j h => by omega) (fun k hk => by simpa using hraw k hk)) ?_ ?_
    · intro _ w5 ⟨hc, hv, hrest⟩
      have hv' : ∀ k (h : k < srcs.length), (w5.mem d)[k]? = some (.obj (srcVal w srcs[k])) := fun k hk => by
        rw [← srcVal_congr w w4 _ (hag _ (List.getElem_mem hk))]; simpa using hv k hk
      exact ⟨⟨hc, fun b' i h _ => hrest b' i (fun h' => h ⟨h'.1, by omega⟩)⟩, fun k hk => ⟨_, hv' k hk⟩, hv'⟩
    · intro e w5 ⟨⟨he, _⟩, hc, hr, hrest⟩
      exact ⟨by rw [he]; nofun, ⟨hc, fun b' i h _ => hrest b' i (fun h' => h ⟨h'.1, by omega⟩)⟩,
             fun k hk => hr k (Nat.zero_le _) (by omega), trivial⟩
  · intro _ w' ⟨hv, hl', hf, hlv, ha, hsz, hcap, hdata, hR⟩
    exact ⟨hv, hl', holds_map_of_slots hsz rfl hR, ha, hlv, hf.hdr_N, hcap, hdata, hf⟩
  · intro e w' ⟨hu', hl', hf, hlv, hlen, _⟩
    exact ⟨hu', hl', hlv, hlen, hf⟩

theorem dtor_sat (cfg : Cfg) (c : Nat) (w : World α) (hv : VecOK cfg w c) (hl : Ledger w) :
    (dtor cfg c w).sat
      (fun _ w' => Unborn w' c ∧ Ledger w' ∧ w'.ub = w.ub ∧ w'.hdr = w.hdr ∧
          (w'.live = if (w.hdr c).N < (w.hdr c).cap then w.live.erase (w.hdr c).data else w.live) ∧
          (∀ b, b ≠ (w.hdr c).data → w'.mem b = w.mem b) ∧ w'.owner = w.owner)
      (fun _ _ => False) := by
  unfold dtor
  refine Res.sat_mono (wipe_sat cfg c w hv) ?_ (fun _ _ h => h)
  intro _ w' hw
  have hd := hw.data
  have hlv := hw.live
  refine ⟨?_, ?_, hw.ub, hw.hdr, hw.live, hw.other, hw.owner⟩
  · have hU : (w'.mem (w.hdr c).inl).length = (w.hdr c).N → (∀ i, i < (w.hdr c).N → IsRaw w' (w.hdr c).inl i) → Unborn w' c :=
      fun hlen hraw => ⟨by rw [hw.hdr]; exact hv.inl_lt, by rw [hw.hdr]; exact hlen, by rw [hw.hdr]; exact hraw⟩
    by_cases hcap : (w.hdr c).N < (w.hdr c).cap
    · have hne := hv.heap_iff.mp hcap
      have hm : w'.mem (w.hdr c).inl = w.mem (w.hdr c).inl := hw.other _ (Ne.symm hne)
      exact hU (by rw [hm]; exact (hv.idle hne).1) (fun i hi => isRaw_of_eq (by rw [hm]) ((hv.idle hne).2 i hi))
    · rw [if_neg hcap] at hd
      have he : (w.hdr c).data = (w.hdr c).inl := Decidable.of_not_not (fun h => hcap (hv.heap_iff.mpr h))
      rw [he, hv.inl_iff.mpr he] at hd
      exact hU hd.1 hd.2
  · by_cases hcap : (w.hdr c).N < (w.hdr c).cap
    · rw [if_pos hcap] at hd hlv
      exact hl.dealloc _ hw.next hw.ntmp hlv hd (fun b hb _ => by rw [hw.other b hb])
    · rw [if_neg hcap] at hd hlv
      refine hl.congr hw.next hw.ntmp hlv (fun b => ?_)
      by_cases hb : b = (w.hdr c).data
      · rw [hb, hd.1, hv.len]
      · rw [hw.other b hb]

/-- construct-then-destroy: the ledger is back where it started (nothing leaked, nothing double-freed) -/
theorem ctor_dtor_balanced (cfg : Cfg) (c a : Nat) (checked : Bool) (srcs : List (Src α)) (w w1 w2 : World α)
    (hu : Unborn w c) (hl : Ledger w) (hNmax : (w.hdr c).N ≤ cfg.maxSize)
    (hk : checked = false → srcs.length ≤ cfg.maxSize) (hs : CtorSrcs cfg w c srcs)
    (h1 : ctorFill cfg c a checked srcs w = .ok () w1) (h2 : dtor cfg c w1 = .ok () w2) :
    w2.live = w.live ∧ Unborn w2 c ∧ Ledger w2 := by
  obtain ⟨hv1, hl1, _, _, hlv1, hN1, hcap1, hdata1, _⟩ := sat_of_ok (ctorFill_sat cfg c a checked srcs w hu hl hk hs) h1
  obtain ⟨hu2, hl2, _, _, hlv2, _⟩ := sat_of_ok (dtor_sat cfg c w1 hv1 hl1) h2
  refine ⟨?_, hu2, hl2⟩
  rw [hlv2, hlv1, hN1, hcap1, hdata1]
  by_cases hbig : (w.hdr c).N < srcs.length
  · simp only [hbig, if_true]
    rw [List.erase_cons_head]
  · simp only [hbig, if_false, Nat.lt_irrefl]

end SvModel
