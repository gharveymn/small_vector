/-
Element-wise move construction (the paths of `move_initialize` that cannot steal, and the allocator-extended move
constructor with an unequal allocator): the new container is filled by RELOCATING the source's elements
(`uninitialized_move`: each element is move-constructed into the new storage; the sources stay alive, moved-from).

`ctorFill` over the moving sources `srcsMove b 0 n` is exactly that code (`ctorMove_eq_fill`), so one specification
serves: on return the new container is valid and holds the values the source slots held, the source slots are still
objects (husks when the type really moves, unchanged when "move" is a copy); when a move constructor or the allocator
throws, everything built so far is destroyed again, the block is returned, the storage is unborn, and the source slots
are still live objects — nothing leaks (C03, C04, C06).
-/
import SvModel.Proofs.Ctor

namespace SvModel
open Gen
variable {α : Type}

/-- what happened to the `n` source slots of block `b`:
    unchanged when the relocation copies, husks when it really moved (only after a complete relocation) -/
structure SrcAfter (cfg : Cfg) (w w' : World α) (b n : Nat) (complete : Bool) : Prop where
  objs : ∀ k, k < n → IsObj w' b k
  len  : (w'.mem b).length = (w.mem b).length
  rest : ∀ i, n ≤ i → (w'.mem b)[i]? = (w.mem b)[i]?
  kept : movesFor cfg false = false → ∀ k, k < n → (w'.mem b)[k]? = (w.mem b)[k]?
  husk : complete = true → movesFor cfg false = true → ∀ k, k < n → (w'.mem b)[k]? = some (.obj .husk)

theorem SrcAfter.of_mem {cfg : Cfg} {w w5 w6 : World α} {b n : Nat} {fin : Bool} (h : SrcAfter cfg w w5 b n fin)
    (hm : w6.mem b = w5.mem b) : SrcAfter cfg w w6 b n fin :=
  ⟨fun k hk => isObj_of_eq (by rw [hm]) (h.objs k hk), by rw [hm]; exact h.len, fun i hi => by rw [hm]; exact h.rest i hi,
   fun hk k hkn => by rw [hm]; exact h.kept hk k hkn, fun hc hmv k hkn => by rw [hm]; exact h.husk hc hmv k hkn⟩

theorem ctorReloc_sat (cfg : Cfg) (c a b n : Nat) (w : World α)
    (hu : Unborn w c) (hl : Ledger w) (hn : n ≤ cfg.maxSize)
    (hsrc : ∀ k, k < n → IsObj w b k) (hbi : b ≠ (w.hdr c).inl) (hbn : b < w.next) :
    (ctorFill cfg c a false (srcsMove b 0 n) w).sat
      (fun _ w' => VecOK cfg w' c ∧ Ledger w' ∧
          (w'.hdr c).size = n ∧ (∀ k, k < n → (w'.mem (w'.hdr c).data)[k]? = (w.mem b)[k]?) ∧ (w'.hdr c).alloc = a ∧
          (w'.live = if (w.hdr c).N < n then w.next :: w.live else w.live) ∧
          (w'.hdr c).data = (if (w.hdr c).N < n then w.next else (w.hdr c).inl) ∧
          CFrameX w w' c b ∧ SrcAfter cfg w w' b n true)
      (fun _ w' => Unborn w' c ∧ Ledger w' ∧ w'.live = w.live ∧ CFrameX w w' c b ∧ SrcAfter cfg w w' b n false) := by
  have hbnx : b ≠ w.next := Nat.ne_of_lt hbn
  have hrel := ctorFill_frame_sat cfg c a false (srcsMove b 0 n) w b
    (fun d w5 => (∀ k, k < n → (w5.mem d)[k]? = (w.mem b)[k]?) ∧ SrcAfter cfg w w5 b n true)
    (fun w5 => SrcAfter cfg w w5 b n false) hu hl (fun _ => by rw [srcsMove_length]; exact hn) hbi
    (fun d w5 w6 hm h => ⟨by rw [hm]; exact h.1, h.2.of_mem (by rw [hm])⟩) (fun w5 w6 hm h => h.of_mem (hm b hbnx))
    ⟨hsrc, rfl, fun _ _ => rfl, fun _ _ _ => rfl, nofun⟩ ?_
  · simp only [srcsMove_length] at hrel
    refine Res.sat_mono hrel ?_ (fun _ w' ⟨hu', hl', hf, hlv, _, hs⟩ => ⟨hu', hl', hlv, hf, hs⟩)
    intro _ w' ⟨hv, hl', hf, hlv, ha, hsz, _, hdata, hval, hs⟩
    exact ⟨hv, hl', hsz, hval, ha, hlv, hdata, hf, hs⟩
  · -- the relocation loop, run in a world that shares block `b` with `w`
    intro d w4 hoth hraw
    simp only [srcsMove_length] at hraw ⊢
    have hb4 : w4.mem b = w.mem b := hoth b hbnx
    have hmv := uninitializedMove_sat cfg false b 0 n d 0 w4
      (fun k hk => by rw [Nat.zero_add]; exact isObj_of_eq (by rw [hb4]) (hsrc k hk)) (fun k hk => by rw [Nat.zero_add]; exact hraw k hk)
    rw [uninitializedMove_false] at hmv
    refine Res.sat_mono hmv ?_ ?_
    · intro _ w5 hr
      have hdst : ∀ k, k < n → (w5.mem d)[k]? = (w.mem b)[k]? := fun k hk => by
        have := hr.dst k hk; simp only [Nat.zero_add] at this; rw [this, hb4]
      refine ⟨⟨hr.ctl, fun b' i h1 h2 => hr.rest b' i (fun h => h1 ⟨h.1, by omega⟩) (fun h => h2 h.1)⟩,
              fun k hk => isObj_of_eq (hdst k hk) (hsrc k hk), hdst, ?_⟩
      refine ⟨fun k hk => by simpa using hr.src k hk, by rw [hr.ctl.len, hb4], fun i hi => ?_, fun hk k hkn => ?_, fun _ hm k hkn => ?_⟩
      · rw [hr.rest b i (fun h => by omega) (fun h => by omega), hb4]
      · have := hr.kept hk k hkn; simp only [Nat.zero_add] at this; rw [this, hb4]
      · simpa using hr.husk hm k hkn
    · intro e w5 ⟨he, hf⟩
      refine ⟨by rw [he]; nofun, ⟨hf.ctl, fun b' i h1 h2 => hf.rest b' i (fun h => h1 ⟨h.1, by omega⟩) (fun h => h2 h.1)⟩,
              fun k hk => by simpa using hf.dst k hk, ?_⟩
      refine ⟨fun k hk => by simpa using hf.src k hk, by rw [hf.ctl.len, hb4], fun i hi => ?_, fun hk k hkn => ?_, nofun⟩
      · rw [hf.rest b i (fun h => by omega) (fun h => by omega), hb4]
      · have := hf.kept hk k hkn; simp only [Nat.zero_add] at this; rw [this, hb4]

/-- the source cannot be stolen from: it sits in its in-object buffer, or its buffer is not larger than the new container's
    inline capacity (the complement of C09.StealAllowed, plus the both-zero-capacity case which always "steals") -/
def NoSteal (v ov : Vec) : Prop :=
  ¬ (v.N = 0 ∧ ov.N = 0) ∧ (ov.N ≤ v.N → ¬ v.N < ov.cap) ∧ (v.N < ov.N → ¬ ov.N < ov.cap)

/-- move construction that cannot steal IS construction by relocation of the source's elements with the source's
    allocator: the same model program -/
theorem ctorMove_eq_fill (cfg : Cfg) (c o : Nat) (hne : c ≠ o) (w : World α) (hns : NoSteal (w.hdr c) (w.hdr o))
    (hsz : (w.hdr o).size ≤ (w.hdr o).cap) (hcap : (w.hdr o).N ≤ (w.hdr o).cap) :
    ctorMove cfg c o w = ctorFill cfg c (w.hdr o).alloc false (srcsMove (w.hdr o).data 0 (w.hdr o).size) w := by
  have hne' : o ≠ c := fun h => hne h.symm
  obtain ⟨h0, h1, h2⟩ := hns
  unfold ctorMove ctorFill moveInitialize
  rw [bind_run, getV_run]
  simp only []
  rw [bind_run, bind_run]
  have hsa : SvModel.setAlloc c (w.hdr o).alloc w = .ok () { w with hdr := upd w.hdr c { w.hdr c with alloc := (w.hdr o).alloc } } := rfl
  rw [hsa]
  simp only []
  generalize hw1 : ({ w with hdr := upd w.hdr c { w.hdr c with alloc := (w.hdr o).alloc } } : World α) = w1
  have hc1 : w1.hdr c = { w.hdr c with alloc := (w.hdr o).alloc } := by subst hw1; simp
  have ho1 : w1.hdr o = w.hdr o := by subst hw1; show (upd w.hdr c _) o = _; rw [upd_other _ _ _ _ hne']
  simp only [bind_run, getV_run, hc1, ho1]
  simp only [srcsMove_length, uninitializedMove_false, Bool.false_eq_true, if_false]
  rw [guard_moveInitialize1_0_eq, guard_moveInitialize2_0_eq, guard_moveInitialize2_1_eq]
  simp only []
  rw [if_neg h0]
  by_cases hle : (w.hdr o).N ≤ (w.hdr c).N
  · rw [if_pos hle, if_neg (by simpa using h1 hle)]
    have : ¬ (w.hdr c).N < (w.hdr o).size := by have := h1 hle; omega
    rw [if_neg this]
  · rw [if_neg hle, if_neg (by simpa using h2 (by omega))]
    by_cases hbig : (w.hdr c).N < (w.hdr o).size
    · rw [if_pos (decide_eq_true hbig), if_pos hbig]
    · rw [if_neg (by simpa using hbig), if_neg hbig]

end SvModel
