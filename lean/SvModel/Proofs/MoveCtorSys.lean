/-
Element-wise move construction inside a system of containers: the new container joins the system holding the values
the source held; the source keeps its size and buffer, its elements are alive but moved-from (C02: "being the source of
a move" leaves a valid container; C03: nothing is destroyed or leaked); a throwing move constructor or allocator leaves
the system as it was except that some of the source's elements are moved-from, and the new storage is unborn again.
-/
import SvModel.Proofs.MoveCtor
import SvModel.Proofs.SysInv

namespace SvModel
open Gen
variable {α : Type}

theorem VecOK.of_srcAfter {cfg : Cfg} {w w' : World α} {o : Nat} {fin : Bool} (hvo : VecOK cfg w o)
    (hh : w'.hdr o = w.hdr o) (hs : SrcAfter cfg w w' (w.hdr o).data (w.hdr o).size fin)
    (hlive : (w.hdr o).data ≠ (w.hdr o).inl → (w.hdr o).data ∈ w'.live ∧ w'.owner (w.hdr o).data = (w.hdr o).alloc)
    (hinl : (w.hdr o).data ≠ (w.hdr o).inl → w'.mem (w.hdr o).inl = w.mem (w.hdr o).inl) : VecOK cfg w' o := by
  refine hvo.transfer hh hs.len hs.objs ?_ hlive ?_
  · intro i h1 h2
    exact isRaw_of_eq (hs.rest i h1) (hvo.raws i h1 h2)
  · intro hne
    obtain ⟨h1, h2⟩ := hvo.idle hne
    exact ⟨by rw [hinl hne]; exact h1, fun i hi => by unfold IsRaw; rw [hinl hne]; exact h2 i hi⟩

/-- construction of `c` by RELOCATION of `o`'s elements with an arbitrary allocator `a` (the element-wise paths of the plain
    and of the allocator-extended move constructor) -/
theorem SysAll.ctorFillMove {cfg : Cfg} {w : World α} {U A : List Nat} {c o : Nat} (hs : SysAll cfg w U A)
    (hcU : c ∈ U) (hcA : c ∉ A) (ho : o ∈ A) (a : Nat) :
    (SvModel.ctorFill cfg c a false (srcsMove (w.hdr o).data 0 (w.hdr o).size) w).sat
      (fun _ w' => SysAll cfg w' U (c :: A) ∧ (∀ xs, Holds w o xs → Holds w' c xs) ∧ (w'.hdr c).alloc = a ∧
                   w'.hdr o = w.hdr o ∧
                   ∀ d ∈ A, d ≠ o → w'.hdr d = w.hdr d ∧ w'.mem (w.hdr d).data = w.mem (w.hdr d).data)
      (fun _ w' => SysAll cfg w' U A ∧ w'.live = w.live ∧ w'.hdr o = w.hdr o ∧
                   ∀ d ∈ A, d ≠ o → w'.hdr d = w.hdr d ∧ w'.mem (w.hdr d).data = w.mem (w.hdr d).data) := by
  have hoc : o ≠ c := fun e => hcA (e ▸ ho)
  have hvo := hs.ok.vec o ho
  have hl := hs.ok.led
  have hu := hs.unborn c hcU hcA
  have hn5 := hl.next_ok.2
  have hsz : (w.hdr o).size ≤ cfg.maxSize := Nat.le_trans hvo.size_le (hvo.cap_le_max (hs.ok.nmax o ho))
  by_cases hz : (w.hdr o).size = 0
  ·
    have hnil : (srcsMove (w.hdr o).data 0 (w.hdr o).size : List (Src α)) = [] := by rw [hz]; rfl
    rw [hnil]
    refine Res.sat_mono (SysAll.ctorEmpty hs hcU hcA a false) ?_ ?_
    · intro _ w' ⟨h1, h2, h3, h4⟩
      refine ⟨h1, ?_, h3, (h4 o ho).1, fun d hd _ => h4 d hd⟩
      intro xs hx
      rw [hx.eq_nil hz]; exact h2
    · intro _ w' ⟨h1, h2, h4⟩
      exact ⟨h1, h2, (h4 o ho).1, fun d hd _ => h4 d hd⟩
  -- the source buffer holds an element, so it is nobody's in-object buffer
  have hcap0 : (w.hdr o).cap ≠ 0 := by have := hvo.size_le; omega
  have hbi : (w.hdr o).data ≠ (w.hdr c).inl := hvo.data_ne_inl hl hu.inl_lt (hs.inlsep o (hs.sub o ho) c hcU hoc) (Or.inl hcap0)
  have hrel := ctorReloc_sat cfg c a (w.hdr o).data (w.hdr o).size w hu hl hsz hvo.objs hbi (hvo.data_lt_next hl)
  -- everybody else across the constructor, in both outcomes: the only old blocks written are `c`'s in-object buffer
  -- and the source buffer
  have rest : ∀ {w' : World α} {fin : Bool}, CFrameX w w' c (w.hdr o).data → SrcAfter cfg w w' (w.hdr o).data (w.hdr o).size fin →
      (∀ b, b ∈ w.live → b ∈ w'.live) → ((w.hdr c).N = 0 → w'.mem (w.hdr c).inl = []) →
      (∀ d ∈ A, VecOK cfg w' d) ∧ (∀ d ∈ A, d ≠ o → w'.mem (w.hdr d).data = w.mem (w.hdr d).data) ∧
      (∀ d ∈ U, d ∉ A → d ≠ c → Unborn w' d) := by
    intro w' fin hf hsa hlsub hnil
    have others : ∀ d ∈ A, d ≠ o → VecOK cfg w' d ∧ w'.mem (w.hdr d).data = w.mem (w.hdr d).data := by
      intro d hd hdo
      obtain ⟨h1, h2⟩ := hs.ok.buffers_apart hd ho (Ne.symm hdo) (Or.inl hcap0)
      exact (hs.ok.vec d hd).of_ctor hl (hf.hdr_other d (fun e => hcA (e ▸ hd))) hf.mem_other hf.owner_old
        (hs.inlsep d (hs.sub d hd) c hcU (fun e => hcA (e ▸ hd))) hu.inl_lt hnil (Ne.symm h2) (Ne.symm h1) hlsub
    refine ⟨fun d hd => ?_, fun d hd hdo => (others d hd hdo).2, fun d hdU hdA hdc => ?_⟩
    · by_cases hdo : d = o
      · rw [hdo]
        refine hvo.of_srcAfter (hf.hdr_other o hoc) hsa (fun hne => ?_) (fun hne => ?_)
        · exact ⟨hlsub _ (hvo.heap hne).1, by rw [hf.owner_old _ (hvo.data_odd hl hne).2.2]; exact (hvo.heap hne).2⟩
        · exact inl_block_eq ((hs.inlsep o (hs.sub o ho) c hcU hoc).block hvo.inl_nil) hnil
            (fun h => hf.mem_other _ h (Ne.symm hne) (by have := hvo.inl_lt; omega))
      · exact (others d hd hdo).1
    · have hud := hs.unborn d hdU hdA
      have hdo : d ≠ o := fun e => hdA (e ▸ ho)
      exact hud.of_ctor hl (hf.hdr_other d hdc) hf.mem_other (hs.inlsep d hdU c hcU hdc) hnil
        (Ne.symm (hvo.data_ne_inl hl hud.inl_lt (hs.inlsep o (hs.sub o ho) d hdU (Ne.symm hdo)) (Or.inl hcap0)))
  refine Res.sat_mono hrel ?_ ?_
  ·
    intro _ w' ⟨hvc, hl', hsize, hvals, halloc, hlive, hdata, hf, hsa⟩
    obtain ⟨hvec, hoth, hunb⟩ := rest hf hsa (fun b hb => by rw [hlive]; split <;> simp [hb])
      (inl_nil_of hvc.inl_nil hf.hdr_N hf.hdr_inl)
    have hhdr : ∀ d ∈ A, w'.hdr d = w.hdr d := fun d hd => hf.hdr_other d (fun e => hcA (e ▸ hd))
    refine ⟨hs.join_fresh hcU hcA hf.hdr_other hf.hdr_N hf.hdr_inl hvc hvec hl' hf.ub hlive hdata hunb,
            ?_, halloc, hhdr o ho, fun d hd hdo => ⟨hhdr d hd, hoth d hd hdo⟩⟩
    intro xs hx
    refine ⟨by rw [hsize]; exact hx.1, fun i hi => ?_⟩
    have hi' : i < (w.hdr o).size := by rw [← hx.1]; exact hi
    rw [hvals i hi', hx.2 i hi]
  ·
    intro e w' ⟨hu', hl', hlive, hf, hsa⟩
    obtain ⟨hvec, hoth, hunb⟩ := rest hf hsa (fun b hb => by rw [hlive]; exact hb) (inl_nil_of hu'.inl_nil hf.hdr_N hf.hdr_inl)
    have hhdr : ∀ d ∈ A, w'.hdr d = w.hdr d := fun d hd => hf.hdr_other d (fun e => hcA (e ▸ hd))
    exact ⟨hs.ctor_thrown hcA hf.hdr_other hf.hdr_N hf.hdr_inl hu' hvec hl' hf.ub hlive hunb,
      hlive, hhdr o ho, fun d hd hdo => ⟨hhdr d hd, hoth d hd hdo⟩⟩

theorem SysAll.ctorMoveElementwise {cfg : Cfg} {w : World α} {U A : List Nat} {c o : Nat} (hs : SysAll cfg w U A)
    (hcU : c ∈ U) (hcA : c ∉ A) (ho : o ∈ A) (hns : NoSteal (w.hdr c) (w.hdr o)) :
    (ctorMove cfg c o w).sat
      (fun _ w' => SysAll cfg w' U (c :: A) ∧ (∀ xs, Holds w o xs → Holds w' c xs) ∧ (w'.hdr c).alloc = (w.hdr o).alloc ∧
                   w'.hdr o = w.hdr o ∧
                   ∀ d ∈ A, d ≠ o → w'.hdr d = w.hdr d ∧ w'.mem (w.hdr d).data = w.mem (w.hdr d).data)
      (fun _ w' => SysAll cfg w' U A ∧ w'.live = w.live ∧ w'.hdr o = w.hdr o ∧
                   ∀ d ∈ A, d ≠ o → w'.hdr d = w.hdr d ∧ w'.mem (w.hdr d).data = w.mem (w.hdr d).data) := by
  have hne : c ≠ o := fun e => hcA (e ▸ ho)
  have hvo := hs.ok.vec o ho
  rw [ctorMove_eq_fill cfg c o hne w hns hvo.size_le hvo.cap_ge]
  exact SysAll.ctorFillMove hs hcU hcA ho (w.hdr o).alloc

end SvModel
