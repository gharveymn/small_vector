/-
Invariants of the L2 model.

`VecOK`  — the storage invariants of one container (property C02's clauses, plus the lifetime split of C03).
`Ledger` — allocator-ledger / block-id facts that every primitive preserves.
`Holds`  — the abstraction to L0: container `c` holds the list `xs`.
`Frame1` — what an operation on container `c` leaves alone; `LiveAcc` — its live-block accounting.
`Ctl0`   — the control state (ledger fields, block lengths) is unchanged, up to temporaries.
Block ids follow the scheme of Basic.lean: 0..3 in-object buffers, 4 the null data pointer, odd ids from 5 heap
blocks in allocation order, even ids from 6 temporaries; the constants 5, 6 and the parities below come from there.
The lemmas that re-establish `Ledger` after an allocation or a release are here too.
-/
import SvModel.Proofs.RangeSpec

namespace SvModel
variable {α : Type}

structure VecOK (cfg : Cfg) (w : World α) (c : Nat) : Prop where
  size_le : (w.hdr c).size ≤ (w.hdr c).cap
  cap_ge  : (w.hdr c).N ≤ (w.hdr c).cap
  cap_max : (w.hdr c).cap ≤ max cfg.maxSize (w.hdr c).N
  inl_iff : (w.hdr c).cap = (w.hdr c).N ↔ (w.hdr c).data = (w.hdr c).inl
  inl_lt  : (w.hdr c).inl < 5
  len     : (w.mem (w.hdr c).data).length = (w.hdr c).cap
  objs    : ∀ i, i < (w.hdr c).size → IsObj w (w.hdr c).data i
  raws    : ∀ i, (w.hdr c).size ≤ i → i < (w.hdr c).cap → IsRaw w (w.hdr c).data i
  heap    : (w.hdr c).data ≠ (w.hdr c).inl →
              (w.hdr c).data ∈ w.live ∧ w.owner (w.hdr c).data = (w.hdr c).alloc
  idle    : (w.hdr c).data ≠ (w.hdr c).inl →
              (w.mem (w.hdr c).inl).length = (w.hdr c).N ∧ ∀ i, i < (w.hdr c).N → IsRaw w (w.hdr c).inl i

structure Ledger (w : World α) : Prop where
  next_ok  : w.next % 2 = 1 ∧ 5 ≤ w.next
  ntmp_ok  : w.ntmp % 2 = 0 ∧ 6 ≤ w.ntmp
  live_ok  : ∀ b, b ∈ w.live → 5 ≤ b ∧ b % 2 = 1 ∧ b < w.next
  nodup    : w.live.Nodup
  freed    : ∀ b, 5 ≤ b → b % 2 = 1 → b ∉ w.live → w.mem b = []
  tmpfresh : ∀ b, w.ntmp ≤ b → b % 2 = 0 → w.mem b = []

def Holds (w : World α) (c : Nat) (xs : List (Val α)) : Prop :=
  xs.length = (w.hdr c).size ∧ ∀ i (h : i < xs.length), (w.mem (w.hdr c).data)[i]? = some (.obj xs[i])

/-- live-block accounting of an operation on container `c` (the allocator-ledger side of C04): a heap block that
    existed before the operation is live afterwards iff it was live and it is not a buffer that `c` moved away from;
    a block created during the operation is live afterwards iff it is `c`'s buffer now.  So nothing allocated on behalf
    of `c` outlives the operation except its buffer, and nothing that belongs to anybody else is released. -/
structure LiveAcc (w w' : World α) (c : Nat) : Prop where
  old   : ∀ b, b < w.next → (b ∈ w'.live ↔ b ∈ w.live ∧ (b = (w.hdr c).data → (w'.hdr c).data = b))
  fresh : ∀ b, w.next ≤ b → (b ∈ w'.live ↔ b = (w'.hdr c).data)

theorem VecOK.cap_le_max {cfg : Cfg} {w : World α} {c : Nat} (hv : VecOK cfg w c) (hNmax : (w.hdr c).N ≤ cfg.maxSize) :
    (w.hdr c).cap ≤ cfg.maxSize := by
  have := hv.cap_max; rw [Nat.max_eq_left hNmax] at this; exact this

theorem VecOK.data_odd {cfg : Cfg} {w : World α} {c : Nat} (h : VecOK cfg w c) (hl : Ledger w)
    (hne : (w.hdr c).data ≠ (w.hdr c).inl) :
    5 ≤ (w.hdr c).data ∧ (w.hdr c).data % 2 = 1 ∧ (w.hdr c).data < w.next :=
  hl.live_ok _ (h.heap hne).1

theorem VecOK.data_kind {cfg : Cfg} {w : World α} {c : Nat} (hv : VecOK cfg w c) (hl : Ledger w) :
    (w.hdr c).data % 2 = 1 ∨ (w.hdr c).data < 5 := by
  by_cases hne : (w.hdr c).data = (w.hdr c).inl
  · rw [hne]; exact Or.inr hv.inl_lt
  · exact Or.inl (hv.data_odd hl hne).2.1

theorem VecOK.data_lt_next {cfg : Cfg} {w : World α} {c : Nat} (hv : VecOK cfg w c) (hl : Ledger w) : (w.hdr c).data < w.next := by
  by_cases hne : (w.hdr c).data = (w.hdr c).inl
  · rw [hne]; exact Nat.lt_of_lt_of_le hv.inl_lt hl.next_ok.2
  · exact (hv.data_odd hl hne).2.2

theorem VecOK.next_ne {cfg : Cfg} {w : World α} {c : Nat} (hv : VecOK cfg w c) (hl : Ledger w) :
    w.next ≠ (w.hdr c).data ∧ w.next ≠ (w.hdr c).inl :=
  ⟨Nat.ne_of_gt (hv.data_lt_next hl), Nat.ne_of_gt (Nat.lt_of_lt_of_le hv.inl_lt hl.next_ok.2)⟩

theorem VecOK.heap_iff {cfg : Cfg} {w : World α} {c : Nat} (h : VecOK cfg w c) :
    (w.hdr c).N < (w.hdr c).cap ↔ (w.hdr c).data ≠ (w.hdr c).inl :=
  ⟨fun hlt he => Nat.ne_of_gt hlt (h.inl_iff.mpr he),
   fun hne => Nat.lt_of_le_of_ne h.cap_ge (fun e => hne (h.inl_iff.mp e.symm))⟩

theorem VecOK.inline_of_not_heap {cfg : Cfg} {w : World α} {c : Nat} (h : VecOK cfg w c)
    (hcap : ¬ (w.hdr c).N < (w.hdr c).cap) : (w.hdr c).data = (w.hdr c).inl :=
  Decidable.not_not.mp (fun hne => hcap (h.heap_iff.mpr hne))

theorem VecOK.transfer {cfg : Cfg} {w w' : World α} {c : Nat} (h : VecOK cfg w c)
    (hh : w'.hdr c = w.hdr c)
    (hlen : (w'.mem (w.hdr c).data).length = (w.mem (w.hdr c).data).length)
    (hobj : ∀ i, i < (w.hdr c).size → IsObj w' (w.hdr c).data i)
    (hraw : ∀ i, (w.hdr c).size ≤ i → i < (w.hdr c).cap → IsRaw w' (w.hdr c).data i)
    (hlive : (w.hdr c).data ≠ (w.hdr c).inl → (w.hdr c).data ∈ w'.live ∧ w'.owner (w.hdr c).data = (w.hdr c).alloc)
    (hidle : (w.hdr c).data ≠ (w.hdr c).inl →
       (w'.mem (w.hdr c).inl).length = (w.hdr c).N ∧ ∀ i, i < (w.hdr c).N → IsRaw w' (w.hdr c).inl i) :
    VecOK cfg w' c := by
  refine ⟨?size_le, ?cap_ge, ?cap_max, ?inl_iff, ?inl_lt, ?len, ?objs, ?raws, ?heap, ?idle⟩ <;> rw [hh]
  case size_le => exact h.size_le
  case cap_ge => exact h.cap_ge
  case cap_max => exact h.cap_max
  case inl_iff => exact h.inl_iff
  case inl_lt => exact h.inl_lt
  case len => rw [hlen]; exact h.len
  case objs => exact hobj
  case raws => exact hraw
  case heap => exact hlive
  case idle => exact hidle

theorem LiveAcc.of_same {cfg : Cfg} {w w' : World α} {c : Nat} (hl : Ledger w) (hv : VecOK cfg w c) (hlive : w'.live = w.live)
    (hdata : (w'.hdr c).data = (w.hdr c).data) : LiveAcc w w' c := by
  refine ⟨fun b _ => ?_, fun b hb => ?_⟩
  · rw [hlive]
    exact ⟨fun h => ⟨h, fun hb => by rw [hdata, hb]⟩, fun h => h.1⟩
  · rw [hlive]
    constructor
    · intro h; have := (hl.live_ok b h).2.2; omega
    · intro h
      have := hv.data_lt_next hl
      rw [hdata] at h; omega

theorem LiveAcc.trans {cfg : Cfg} {a b d : World α} {c : Nat} (hl : Ledger a) (hv : VecOK cfg a c)
    (h1 : LiveAcc a b c) (h2 : LiveAcc b d c) (hn1 : a.next ≤ b.next)
    (hinl : (b.hdr c).inl = (a.hdr c).inl)
    (hd1 : (b.hdr c).data = (a.hdr c).data ∨ (b.hdr c).data = (a.hdr c).inl ∨ a.next ≤ (b.hdr c).data)
    (hd2 : (d.hdr c).data = (b.hdr c).data ∨ (d.hdr c).data = (b.hdr c).inl ∨ b.next ≤ (d.hdr c).data) : LiveAcc a d c := by
  have hi5 := hv.inl_lt
  have hn5 := hl.next_ok.2
  refine ⟨fun x hx => ?_, fun x hx => ?_⟩
  · rw [h2.old x (by omega), h1.old x hx]
    constructor
    · rintro ⟨⟨hxa, h3⟩, h4⟩
      refine ⟨hxa, fun hxd => ?_⟩
      exact h4 (h3 hxd).symm
    · rintro ⟨hxa, h3⟩
      have hx5 := (hl.live_ok x hxa).1
      refine ⟨⟨hxa, fun hxd => ?_⟩, fun hxb => ?_⟩
      · have hdd := h3 hxd
        rcases hd2 with h | h | h
        · rw [← h]; exact hdd
        · rw [hinl] at h; omega
        · omega
      · rcases hd1 with h | h | h
        · exact h3 (by rw [hxb, h])
        · omega
        · omega
  · by_cases hxb : x < b.next
    · rw [h2.old x hxb, h1.fresh x hx]
      constructor
      · rintro ⟨h3, h4⟩; exact (h4 h3).symm
      · intro h3
        rcases hd2 with h | h | h
        · exact ⟨by rw [h3, h], fun _ => h3.symm⟩
        · rw [hinl] at h; omega
        · omega
    · exact h2.fresh x (by omega)

structure Frame1 (w w' : World α) (c : Nat) : Prop where
  hdr_other : ∀ d, d ≠ c → w'.hdr d = w.hdr d
  hdr_N     : (w'.hdr c).N = (w.hdr c).N
  hdr_inl   : (w'.hdr c).inl = (w.hdr c).inl
  mem_other : ∀ b, b ≠ (w.hdr c).data → b ≠ (w.hdr c).inl → b < w.next → b % 2 = 1 ∨ b < 5 → w'.mem b = w.mem b
  owner_old : ∀ b, b < w.next → w'.owner b = w.owner b
  next_mono : w.next ≤ w'.next
  data_new  : (w'.hdr c).data = (w.hdr c).data ∨ (w'.hdr c).data = (w.hdr c).inl ∨ w.next ≤ (w'.hdr c).data
  live      : LiveAcc w w' c

theorem Frame1.trans {cfg : Cfg} {a b d : World α} {c : Nat} (hl : Ledger a) (hv : VecOK cfg a c)
    (h1 : Frame1 a b c) (h2 : Frame1 b d c) : Frame1 a d c := by
  refine ⟨fun x hx => (h2.hdr_other x hx).trans (h1.hdr_other x hx), h2.hdr_N.trans h1.hdr_N, h2.hdr_inl.trans h1.hdr_inl, ?_,
          fun x hx => (h2.owner_old x (Nat.lt_of_lt_of_le hx h1.next_mono)).trans (h1.owner_old x hx),
          Nat.le_trans h1.next_mono h2.next_mono, ?_,
          LiveAcc.trans hl hv h1.live h2.live h1.next_mono h1.hdr_inl h1.data_new h2.data_new⟩
  · intro x hx1 hx2 hx3 hx4
    rw [h2.mem_other x ?_ (by rw [h1.hdr_inl]; exact hx2) (Nat.lt_of_lt_of_le hx3 h1.next_mono) hx4]
    · exact h1.mem_other x hx1 hx2 hx3 hx4
    · rcases h1.data_new with h | h | h
      · rw [h]; exact hx1
      · rw [h]; exact hx2
      · omega
  · rcases h2.data_new with h | h | h
    · rw [h]; exact h1.data_new
    · rw [h, h1.hdr_inl]; exact Or.inr (Or.inl rfl)
    · exact Or.inr (Or.inr (Nat.le_trans h1.next_mono h))

theorem Frame1.of_same {cfg : Cfg} {w w' : World α} {c : Nat} (hl : Ledger w) (hv : VecOK cfg w c)
    (hh : w'.hdr = w.hdr) (hlive : w'.live = w.live) (hown : ∀ b, b < w.next → w'.owner b = w.owner b)
    (hnext : w.next ≤ w'.next)
    (hmem : ∀ b, b ≠ (w.hdr c).data → b ≠ (w.hdr c).inl → b < w.next → b % 2 = 1 ∨ b < 5 → w'.mem b = w.mem b) :
    Frame1 w w' c :=
  ⟨fun d _ => by rw [hh], by rw [hh], by rw [hh], hmem, hown, hnext, Or.inl (by rw [hh]),
   LiveAcc.of_same hl hv hlive (by rw [hh])⟩

theorem Holds.unique {w : World α} {c : Nat} {xs ys : List (Val α)} (h1 : Holds w c xs) (h2 : Holds w c ys) : xs = ys := by
  apply List.ext_getElem (by rw [h1.1, h2.1])
  intro i hi1 hi2
  have a := h1.2 i hi1
  have b := h2.2 i hi2
  rw [a] at b
  injection b with b; injection b with b

theorem VecOK.holds_exists {cfg : Cfg} {w : World α} {c : Nat} (hv : VecOK cfg w c) : ∃ xs, Holds w c xs := by
  have key : ∀ n, n ≤ (w.hdr c).size → ∃ xs : List (Val α), xs.length = n ∧
      ∀ i (h : i < xs.length), (w.mem (w.hdr c).data)[i]? = some (.obj xs[i]) := by
    intro n
    induction n with
    | zero => intro _; exact ⟨[], rfl, fun i h => by simp at h⟩
    | succ n ih =>
      intro hn
      obtain ⟨xs, hl, hx⟩ := ih (by omega)
      obtain ⟨v, hv'⟩ := hv.objs n (by omega)
      refine ⟨xs ++ [v], by simp [hl], ?_⟩
      intro i hi
      by_cases h : i < xs.length
      · rw [hx i h]; simp [List.getElem_append_left h]
      · have : i = n := by simp at hi; omega
        subst this
        rw [hv']; simp [List.getElem_append_right, hl]
  obtain ⟨xs, hl, hx⟩ := key _ (Nat.le_refl _)
  exact ⟨xs, hl, hx⟩

theorem Holds.get? {w : World α} {c : Nat} {xs : List (Val α)} (hx : Holds w c xs) (i : Nat) (hi : i < xs.length) :
    (w.mem (w.hdr c).data)[i]? = xs[i]?.map Slot.obj := by
  rw [hx.2 i hi, List.getElem?_eq_getElem hi]; rfl

theorem holds_of_get? {w : World α} {c : Nat} {zs : List (Val α)} (hlen : zs.length = (w.hdr c).size)
    (h : ∀ i, i < zs.length → (w.mem (w.hdr c).data)[i]? = (zs[i]?).map Slot.obj) : Holds w c zs := by
  refine ⟨hlen, fun i hi => ?_⟩
  rw [h i hi, List.getElem?_eq_getElem hi]; rfl

theorem Holds.take_eq {w : World α} {c : Nat} {ys zs : List (Val α)} (hy : Holds w c ys) (hlen : zs.length ≤ ys.length)
    (hz : ∀ i, i < zs.length → (w.mem (w.hdr c).data)[i]? = zs[i]?.map Slot.obj) : ys.take zs.length = zs := by
  apply List.ext_getElem (by rw [List.length_take, Nat.min_eq_left hlen])
  intro i _ h2
  have a := hy.2 i (Nat.lt_of_lt_of_le h2 hlen)
  rw [hz i h2, List.getElem?_eq_getElem h2] at a
  rw [List.getElem_take]
  exact (Slot.obj.inj (Option.some.inj a)).symm

/-- control state without the headers, tolerant of temporaries having been created.  `len` speaks of the blocks a
    container can see (ids below 6: in-object buffers, null block; odd ids: heap blocks) and of the temporaries not
    yet handed out; elsewhere "visible" is `b % 2 = 1 ∨ b < 5`, which implies it -/
structure Ctl0 (w w' : World α) : Prop where
  owner : w'.owner = w.owner
  live  : w'.live = w.live
  next  : w'.next = w.next
  ub    : w'.ub = w.ub
  ntmp  : w.ntmp ≤ w'.ntmp ∧ w'.ntmp % 2 = w.ntmp % 2
  len   : ∀ b, (b % 2 = 1 ∨ b < 6 ∨ w'.ntmp ≤ b) → (w'.mem b).length = (w.mem b).length

theorem Ctl.to0 {w w' : World α} (h : Ctl w w') : Ctl0 w w' :=
  ⟨h.owner, h.live, h.next, h.ub, by rw [h.ntmp]; exact ⟨Nat.le_refl _, rfl⟩, fun b _ => h.len b⟩

theorem Ctl0.refl (w : World α) : Ctl0 w w := (Ctl.refl w).to0

theorem Ctl0.trans {a b c : World α} (h1 : Ctl0 a b) (h2 : Ctl0 b c) : Ctl0 a c :=
  ⟨h2.owner.trans h1.owner, h2.live.trans h1.live, h2.next.trans h1.next, h2.ub.trans h1.ub,
   ⟨Nat.le_trans h1.ntmp.1 h2.ntmp.1, h2.ntmp.2.trans h1.ntmp.2⟩,
   fun x hx => (h2.len x hx).trans (h1.len x (by
     rcases hx with h | h | h
     · exact Or.inl h
     · exact Or.inr (Or.inl h)
     · exact Or.inr (Or.inr (Nat.le_trans h2.ntmp.1 h))))⟩

theorem nil_of_length_eq {β} {l l' : List β} (h : l'.length = l.length) (hl : l = []) : l' = [] := by
  subst hl; exact List.eq_nil_of_length_eq_zero h

/-- the Ledger only depends on `next`, `live`, the parity of `ntmp` (which may grow) and on which blocks are empty -/
theorem Ledger.of_lengths {w w' : World α} (h : Ledger w) (hn : w'.next = w.next) (hlv : w'.live = w.live)
    (ht : w.ntmp ≤ w'.ntmp ∧ w'.ntmp % 2 = w.ntmp % 2)
    (hlen : ∀ b, (b % 2 = 1 ∨ b < 6 ∨ w'.ntmp ≤ b) → (w'.mem b).length = (w.mem b).length) : Ledger w' := by
  refine ⟨by rw [hn]; exact h.next_ok, ⟨by rw [ht.2]; exact h.ntmp_ok.1, Nat.le_trans h.ntmp_ok.2 ht.1⟩, ?_,
          by rw [hlv]; exact h.nodup, ?_, ?_⟩
  · intro b hb; rw [hlv] at hb; rw [hn]; exact h.live_ok b hb
  · intro b h1 h2 h3
    rw [hlv] at h3
    exact nil_of_length_eq (hlen b (Or.inl h2)) (h.freed b h1 h2 h3)
  · intro b h1 h2
    exact nil_of_length_eq (hlen b (Or.inr (Or.inr h1))) (h.tmpfresh b (Nat.le_trans ht.1 h1) h2)

theorem Ledger.of_ctl0 {w w' : World α} (h : Ledger w) (hc : Ctl0 w w') : Ledger w' :=
  h.of_lengths hc.next hc.live hc.ntmp hc.len

theorem Ledger.of_ctl {w w' : World α} (h : Ledger w) (hc : Ctl w w') : Ledger w' := h.of_ctl0 hc.to0

theorem Ledger.congr {w w' : World α} (hl : Ledger w) (hn : w'.next = w.next) (ht : w'.ntmp = w.ntmp) (hlv : w'.live = w.live)
    (hlen : ∀ b, (w'.mem b).length = (w.mem b).length) : Ledger w' :=
  hl.of_lengths hn hlv (by rw [ht]; exact ⟨Nat.le_refl _, rfl⟩) (fun b _ => hlen b)

/-- of the blocks that are not live only the lengths matter -/
theorem Ledger.alloc {w w' : World α} (h : Ledger w) (hn : w'.next = w.next + 2) (ht : w'.ntmp = w.ntmp)
    (hlv : w'.live = w.next :: w.live)
    (hlen : ∀ b, b ≠ w.next → b ∉ w.live → (w'.mem b).length = (w.mem b).length) : Ledger w' := by
  have hno := h.next_ok
  have hfresh : w.next ∉ w.live := fun hin => Nat.lt_irrefl _ (h.live_ok _ hin).2.2
  refine ⟨by rw [hn, Nat.add_mod_right]; exact ⟨hno.1, Nat.le_add_right_of_le hno.2⟩, by rw [ht]; exact h.ntmp_ok, ?_,
          by rw [hlv]; exact List.nodup_cons.mpr ⟨hfresh, h.nodup⟩, ?_, ?_⟩
  · intro b hb
    rw [hlv] at hb; rw [hn]
    rcases List.mem_cons.mp hb with rfl | hb
    · exact ⟨hno.2, hno.1, Nat.lt_add_of_pos_right (by decide)⟩
    · have := h.live_ok b hb
      exact ⟨this.1, this.2.1, Nat.lt_add_right 2 this.2.2⟩
  · intro b h1 h2 h3
    rw [hlv] at h3
    have hbl : b ∉ w.live := fun hin => h3 (List.mem_cons_of_mem _ hin)
    exact nil_of_length_eq (hlen b (fun e => h3 (e ▸ List.mem_cons_self)) hbl) (h.freed b h1 h2 hbl)
  · intro b h1 h2
    have hbl : b ∉ w.live := fun hin => by have := h.live_ok b hin; omega
    exact nil_of_length_eq (hlen b (by omega) hbl) (h.tmpfresh b (ht ▸ h1) h2)

theorem Ledger.dealloc {w w' : World α} (h : Ledger w) (d : Nat) (hn : w'.next = w.next) (ht : w'.ntmp = w.ntmp)
    (hlv : w'.live = w.live.erase d) (hd : w'.mem d = [])
    (hlen : ∀ b, b ≠ d → b ∉ w.live → (w'.mem b).length = (w.mem b).length) : Ledger w' := by
  refine ⟨by rw [hn]; exact h.next_ok, by rw [ht]; exact h.ntmp_ok, ?_, by rw [hlv]; exact h.nodup.erase d, ?_, ?_⟩
  · intro b hb; rw [hlv] at hb; rw [hn]; exact h.live_ok b (List.mem_of_mem_erase hb)
  · intro b h1 h2 h3
    by_cases hbd : b = d
    · rw [hbd]; exact hd
    · have hbl : b ∉ w.live := fun hin => h3 (by rw [hlv]; exact (List.mem_erase_of_ne hbd).mpr hin)
      exact nil_of_length_eq (hlen b hbd hbl) (h.freed b h1 h2 hbl)
  · intro b h1 h2
    by_cases hbd : b = d
    · rw [hbd]; exact hd
    · have hbl : b ∉ w.live := fun hin => by have := h.live_ok b hin; omega
      exact nil_of_length_eq (hlen b hbd hbl) (h.tmpfresh b (ht ▸ h1) h2)

/-- two raw slots have the same content -/
theorem IsRaw.slot_eq {w w' : World α} {b i b' i' : Nat} (h' : IsRaw w' b' i') (h : IsRaw w b i) : (w'.mem b')[i']? = (w.mem b)[i]? :=
  Eq.trans h' (Eq.symm h)

/-- `c` holds the images of `l` when slot `i` of its buffer `d` is an object with the image of `l[i]` -/
theorem holds_map_of_slots {β : Type} {w : World α} {c d : Nat} {l : List β} {f : β → Val α} (hs : (w.hdr c).size = l.length)
    (hd : (w.hdr c).data = d) (h : ∀ i (hi : i < l.length), (w.mem d)[i]? = some (.obj (f l[i]))) : Holds w c (l.map f) :=
  ⟨by rw [hs, List.length_map], fun i hi => by rw [hd, h i (by simpa using hi), List.getElem_map]⟩

theorem Holds.of_slots {w w' : World α} {c d : Nat} {xs : List (Val α)} (hx : Holds w d xs)
    (hs : (w'.hdr c).size = (w.hdr d).size)
    (hv : ∀ i, i < (w.hdr d).size → (w'.mem (w'.hdr c).data)[i]? = (w.mem (w.hdr d).data)[i]?) : Holds w' c xs :=
  ⟨hx.1.trans hs.symm, fun i hi => (hv i (hx.1 ▸ hi)).trans (hx.2 i hi)⟩

theorem Holds.of_same {w w' : World α} {c d : Nat} {xs : List (Val α)} (hx : Holds w d xs)
    (hm : w'.mem (w.hdr d).data = w.mem (w.hdr d).data) (hd : (w'.hdr c).data = (w.hdr d).data) (hs : (w'.hdr c).size = (w.hdr d).size) :
    Holds w' c xs :=
  hx.of_slots hs (fun i _ => by rw [hd, hm])

/-- `x` gets the data pointer, capacity and size of `y`, whose buffer is as it was.  When that buffer is a heap block
    `x` owns it now (with allocator `a`) and `x`'s in-object buffer has to be idle; when it is `y`'s in-object buffer the
    two containers have the same (null) in-object buffer. -/
theorem VecOK.takeover {cfg : Cfg} {w w' : World α} {x y a : Nat} (hvx : VecOK cfg w x) (hvy : VecOK cfg w y) (hl : Ledger w)
    (hN : (w.hdr x).N = (w.hdr y).N)
    (hyi : (w.hdr y).data = (w.hdr y).inl → (w.hdr y).inl = (w.hdr x).inl)
    (ha : (w.hdr y).data ≠ (w.hdr y).inl → a = (w.hdr y).alloc)
    (hh : w'.hdr x = { w.hdr x with data := (w.hdr y).data, cap := (w.hdr y).cap, size := (w.hdr y).size, alloc := a })
    (hm : w'.mem (w.hdr y).data = w.mem (w.hdr y).data) (hlive : w'.live = w.live) (hown : w'.owner = w.owner)
    (hidle : (w.hdr y).data ≠ (w.hdr y).inl →
      (w'.mem (w.hdr x).inl).length = (w.hdr x).N ∧ ∀ i, i < (w.hdr x).N → IsRaw w' (w.hdr x).inl i) :
    VecOK cfg w' x := by
  have hyh : (w.hdr y).data ≠ (w.hdr x).inl → (w.hdr y).data ≠ (w.hdr y).inl := fun hne h => hne (by rw [h]; exact hyi h)
  refine ⟨?_, ?_, ?_, ?_, ?_, ?_, ?_, ?_, ?_, ?_⟩ <;> rw [hh] <;> simp only []
  · exact hvy.size_le
  · rw [hN]; exact hvy.cap_ge
  · rw [hN]; exact hvy.cap_max
  · rw [hN]
    refine ⟨fun h => (hyi (hvy.inl_iff.mp h)) ▸ hvy.inl_iff.mp h, fun h => hvy.inl_iff.mpr ?_⟩
    -- a data pointer that is `x`'s in-object buffer (a block < 5) is no heap block
    by_cases hy : (w.hdr y).data = (w.hdr y).inl
    · exact hy
    · have := (hvy.data_odd hl hy).1; have := hvx.inl_lt; omega
  · exact hvx.inl_lt
  · rw [hm]; exact hvy.len
  · intro i hi; unfold IsObj; rw [hm]; exact hvy.objs i hi
  · intro i h1 h2; unfold IsRaw; rw [hm]; exact hvy.raws i h1 h2
  · intro hne; rw [hlive, hown]; exact ⟨(hvy.heap (hyh hne)).1, by rw [(hvy.heap (hyh hne)).2, ha (hyh hne)]⟩
  · intro hne; exact hidle (hyh hne)

theorem VecOK.mk_inline {cfg : Cfg} {w' : World α} {x n : Nat} {v : Vec} (hh : w'.hdr x = { v with data := v.inl, cap := v.N, size := n })
    (hn : n ≤ v.N) (hi5 : v.inl < 5) (hlen : (w'.mem v.inl).length = v.N)
    (hobj : ∀ i, i < n → IsObj w' v.inl i) (hraw : ∀ i, n ≤ i → i < v.N → IsRaw w' v.inl i) : VecOK cfg w' x := by
  refine ⟨?_, ?_, ?_, ?_, ?_, ?_, ?_, ?_, ?_, ?_⟩ <;> rw [hh] <;> simp only []
  · exact hn
  · exact Nat.le_refl _
  · exact Nat.le_max_right _ _
  · exact hi5
  · exact hlen
  · exact hobj
  · exact hraw
  · intro h; exact absurd rfl h
  · intro h; exact absurd rfl h

/-- a new stack temporary is one raw slot in the block `w.ntmp`, which nothing else uses; no other block changes -/
theorem allocTemp_sat (w : World α) (ht : w.ntmp % 2 = 0 ∧ 6 ≤ w.ntmp) :
    ∃ w1 : World α, (∀ {β : Type} (k : Nat → M α β), (allocTemp >>= k) w = k w.ntmp w1) ∧ Ctl0 w w1 ∧ w1.hdr = w.hdr ∧
      w1.ntmp = w.ntmp + 2 ∧ (∀ b, b ≠ w.ntmp → w1.mem b = w.mem b) ∧ (w1.mem w.ntmp)[0]? = some .raw := by
  refine ⟨{ w with mem := upd w.mem w.ntmp [.raw], ntmp := w.ntmp + 2 }, fun _ => rfl,
    ⟨rfl, rfl, rfl, rfl, ⟨Nat.le_add_right _ 2, Nat.add_mod_right _ 2⟩, fun b hb => ?_⟩, rfl, rfl,
    fun b hb => upd_other _ _ _ _ hb, by show (upd w.mem w.ntmp [.raw] w.ntmp)[0]? = _; rw [upd_same]; rfl⟩
  show (upd w.mem w.ntmp [.raw] b).length = _
  rw [upd_other _ _ _ _ (fun h => by
    subst h
    rcases hb with h | h | h
    · omega
    · omega
    · exact absurd (show w.ntmp + 2 ≤ w.ntmp from h) (by omega))]

end SvModel
