/-
`append (small_vector&&)` in its MOVING mode (the element type relocates by move: nothrow move constructor, or not
copyable): `append_range` over move iterators of ANOTHER container's elements.  Both containers change: the destination
gains the values, the source's elements become moved-from (and are destroyed by the `clear ()` that follows).

As for the element-wise move assignment the outcome is factorised through a fictitious intermediate world in which only
the source's block has changed (`husked`, `mid`), so that two applications of `SysOK.step` give the system invariant.
-/
import SvModel.Proofs.AppendN
import SvModel.Proofs.MoveAssign

namespace SvModel
open Gen
variable {α : Type}

/-- success: the source changed first (its elements are moved-from), then the destination -/
def MoveAppended (cfg : Cfg) (w w' : World α) (c o : Nat) : Prop :=
  ∃ wh, Basic cfg w wh o ∧ Basic cfg wh w' c ∧
    (∀ xs ys, Holds w c xs → Holds w o ys → Holds w' c (xs ++ ys))

/-- does a relocation under the given policy have a fault point at all? (moves when it moves, copies otherwise) -/
def canThrow (cfg : Cfg) (strong : Bool) : Bool := if movesFor cfg strong then cfg.tMove else (cfg.tCopy || cfg.tMove)

/-- failure: the allocator threw before anything was touched, or an element operation threw — possible only when the
    constructor the relocation uses can throw — and both containers are valid with their headers as before -/
def MoveAppendFail (cfg : Cfg) (strong : Bool) (w w' : World α) (c o : Nat) (e : Exc) : Prop :=
  (e = .alloc ∧ Quiet w w') ∨
  (e = .elem ∧ (canThrow cfg false = true ∨ canThrow cfg strong = true) ∧
    ∃ wh, Basic cfg w wh o ∧ Basic cfg wh w' c ∧ w'.hdr = w.hdr ∧ w'.live = w.live)

/-- the part of the reallocating append after the new elements have been built in the new block -/
theorem appendRealloc_tail (cfg : Cfg) (c : Nat) (strong : Bool) (m ncap : Nat) (vals : List (Val α)) (w w3 : World α)
    (hv : VecOK cfg w c) (hl : Ledger w) (hm : vals.length = m)
    (hN : (w.hdr c).N < ncap) (hle : ncap ≤ cfg.maxSize) (hge : (w.hdr c).size + m ≤ ncap)
    (hb3 : Built cfg w w3 c ncap)
    (hnew3 : ∀ k (h : k < vals.length), (w3.mem w.next)[(w.hdr c).size + k]? = some (.obj vals[k]))
    (hraw3 : ∀ i, i < ncap → ¬ ((w.hdr c).size ≤ i ∧ i < (w.hdr c).size + m) → IsRaw w3 w.next i)
    (hdata3 : ∀ i : Nat, (w3.mem (w.hdr c).data)[i]? = (w.mem (w.hdr c).data)[i]?) :
    ((tryCatch (uninitializedMove cfg strong (w.hdr c).data 0 (w.hdr c).size w.next 0)
        (fun e => destroyRange cfg w.next (w.hdr c).size m >>= fun _ =>
                  deallocate (w.hdr c).alloc w.next ncap >>= fun _ => throwE e) >>= fun _ =>
      resetData cfg c w.next ncap ((w.hdr c).size + m) >>= fun _ => (pure (w.hdr c).size : M α Nat)) w3).sat
      (fun r w' => r = (w.hdr c).size ∧ Basic cfg w w' c ∧ (∀ xs, Holds w c xs → Holds w' c (xs ++ vals)))
      (fun e w' => e = .elem ∧ canThrow cfg strong = true ∧ Basic cfg w w' c ∧ w'.hdr = w.hdr ∧ w'.live = w.live) := by
  refine Res.sat_mono (appendRealloc_finish_sat cfg c strong m ncap vals w w3 hv hl hm hN hle hge hb3 hnew3 hraw3 hdata3) ?_ ?_
  · intro r w' ⟨hr, hbs, hholds, _⟩
    exact ⟨hr, hbs, hholds⟩
  · intro e w' ⟨he, hcan, hbs, hh, hlv, _⟩
    exact ⟨he, hcan, hbs, hh, hlv⟩

theorem holds_vals_get {w : World α} {o : Nat} {ys : List (Val α)} (hy : Holds w o ys) (k : Nat) (hk : k < ys.length) :
    (w.mem (w.hdr o).data)[k]? = some (.obj ys[k]) := hy.2 k hk

theorem appendMoveRealloc_sat (cfg : Cfg) (c o : Nat) (strong : Bool) (w : World α)
    (hv : VecOK cfg w c) (hl : Ledger w) (hvo : VecOK cfg w o)
    (hgrow : (w.hdr c).cap < (w.hdr c).size + (w.hdr o).size) (hmax : (w.hdr c).size + (w.hdr o).size ≤ cfg.maxSize)
    (hd : (w.hdr o).data ≠ (w.hdr c).data) (hi : (w.hdr o).data ≠ (w.hdr c).inl) :
    (appendRealloc cfg c strong (srcsMove (w.hdr o).data 0 (w.hdr o).size) w).sat
      (fun r w' => r = (w.hdr c).size ∧ MoveAppended cfg w w' c o)
      (fun e w' => MoveAppendFail cfg strong w w' c o e) := by
  unfold appendRealloc
  rw [getV_bind]
  simp only [srcsMove_length]
  generalize hncap : newCapacity cfg.maxSize (w.hdr c).cap ((w.hdr c).size + (w.hdr o).size) = ncap
  obtain ⟨hge, hle⟩ : (w.hdr c).size + (w.hdr o).size ≤ ncap ∧ ncap ≤ cfg.maxSize := by
    rw [← hncap]; exact newCapacity_bounds _ _ _ hgrow hmax
  obtain ⟨hnd, hni⟩ := hv.next_ne hl
  have hN : (w.hdr c).N < ncap := by have := hv.cap_ge; omega
  have hod_next : (w.hdr o).data ≠ w.next := Nat.ne_of_lt (hvo.data_lt_next hl)
  refine sat_bind (allocate_built_sat cfg c ncap (w.hdr c).alloc w hv hl) (fun nb w2 h2 => ?_) (fun e w2 h => Or.inl h)
  obtain ⟨rfl, hb2, hraw2, hoth2⟩ := h2
  have hfill := uninitializedMove_sat cfg false (w.hdr o).data 0 (w.hdr o).size w.next (w.hdr c).size w2
    (fun k hk => by unfold IsObj; rw [hoth2 _ hod_next, Nat.zero_add]; exact hvo.objs k hk)
    (fun k hk => hraw2 _ (by omega))
  rw [uninitializedMove_false] at hfill
  have mid : ∀ {w3 : World α}, Ctl w2 w3 → (∀ k, k < (w.hdr o).size → IsObj w3 (w.hdr o).data (0 + k)) →
      (∀ (b i : Nat), ¬ (b = w.next ∧ (w.hdr c).size ≤ i ∧ i < (w.hdr c).size + (w.hdr o).size) →
        ¬ (b = (w.hdr o).data ∧ 0 ≤ i ∧ i < 0 + (w.hdr o).size) → (w3.mem b)[i]? = (w2.mem b)[i]?) →
      Basic cfg w (husked w w3 (w.hdr o).data) o ∧ VecOK cfg (husked w w3 (w.hdr o).data) c ∧
      Built cfg (husked w w3 (w.hdr o).data) w3 c ncap ∧
      (∀ i : Nat, (w3.mem (w.hdr c).data)[i]? = ((husked w w3 (w.hdr o).data).mem (w.hdr c).data)[i]?) := by
    intro w3 hc3 hsrc3 hrest3
    have hsame : ∀ (b i : Nat), b ≠ w.next → ¬ (b = (w.hdr o).data ∧ i < (w.hdr o).size) → (w3.mem b)[i]? = (w.mem b)[i]? :=
      fun b i hb hn => (hrest3 b i (fun x => hb x.1) (fun x => hn ⟨x.1, by omega⟩)).trans (by rw [hoth2 b hb])
    have hcd : ∀ i : Nat, (w3.mem (w.hdr c).data)[i]? = (w.mem (w.hdr c).data)[i]? := fun i => hsame _ i (Ne.symm hnd) (fun x => hd x.1.symm)
    obtain ⟨hb1, hvh, hbA⟩ := husked_built cfg hv hl hvo hd hi hb2 hc3
      (fun k hk => by have := hsrc3 k hk; rwa [Nat.zero_add] at this)
      (fun i hi' => isObj_of_eq (hcd i) (hv.objs i hi')) (fun b i hb hn _ => hsame b i hb hn)
    exact ⟨hb1, hvh, hbA, fun i => (hcd i).trans (by rw [husked_mem_other _ _ _ _ (Ne.symm hd)])⟩
  refine sat_bind (sat_tryCatch hfill (fun e w3 ⟨he, hf⟩ => ?_)) (fun _ w3 hr => ?_) (fun _ _ h => h)
  · obtain ⟨hb1, hvh, hbA, hcd3⟩ := mid hf.ctl hf.src hf.rest
    obtain ⟨w6, hd6, hs6⟩ := abort_realloc (w := husked w w3 (w.hdr o).data) hvh hb1.led hbA (fun i _ => hcd3 i)
      (fun i hi' => by
        show IsRaw w3 w.next i
        by_cases h : (w.hdr c).size ≤ i ∧ i < (w.hdr c).size + (w.hdr o).size
        · have := hf.dst (i - (w.hdr c).size) (by omega)
          rwa [show (w.hdr c).size + (i - (w.hdr c).size) = i by omega] at this
        · exact isRaw_of_eq (hf.rest _ i (fun x => h x.2) (fun x => hod_next x.1.symm)) (hraw2 i hi'))
    have hd6' : deallocate (w.hdr c).alloc w.next ncap w3 = .ok () w6 := hd6
    rw [bind_run, hd6']
    exact Or.inr ⟨he, Or.inl hf.can, _, hb1, hs6.basic hb1.led hvh, hs6.hdr, hs6.live⟩
  · obtain ⟨hb1, hvh, hbA, hcd3⟩ := mid hr.ctl hr.src hr.rest
    obtain ⟨ys, hys⟩ := hvo.holds_exists
    have hnew3 : ∀ k (h : k < ys.length), (w3.mem w.next)[(w.hdr c).size + k]? = some (.obj ys[k]) := by
      intro k hk
      rw [hr.dst k (by rw [← hys.1]; exact hk), Nat.zero_add, hoth2 _ hod_next]; exact hys.2 k hk
    refine Res.sat_mono (appendRealloc_tail cfg c strong (w.hdr o).size ncap ys (husked w w3 (w.hdr o).data) w3 hvh hb1.led hys.1 hN hle hge hbA hnew3
      (fun i hi' hn' => isRaw_of_eq (hr.rest _ i (fun x => hn' x.2) (fun x => hod_next x.1.symm)) (hraw2 i hi')) hcd3) ?_ ?_
    · intro r w' ⟨hr', hb2', hh⟩
      refine ⟨hr', _, hb1, hb2', ?_⟩
      intro xs ys' hx hy'
      rw [Holds.unique hy' hys]
      exact hh xs ⟨hx.1, fun i hi' => by
        show ((husked w w3 (w.hdr o).data).mem (w.hdr c).data)[i]? = _
        rw [husked_mem_other _ _ _ _ (Ne.symm hd)]; exact hx.2 i hi'⟩
    · intro e w' ⟨he, hcan, hb2', hh, hlv⟩
      exact Or.inr ⟨he, Or.inr hcan, _, hb1, hb2', hh, hlv⟩

theorem appendMoveInPlace_sat (cfg : Cfg) (c o : Nat) (w : World α)
    (hv : VecOK cfg w c) (hl : Ledger w) (hvo : VecOK cfg w o) (hco : c ≠ o)
    (hfit : (w.hdr c).size + (w.hdr o).size ≤ (w.hdr c).cap)
    (hd : (w.hdr o).data ≠ (w.hdr c).data) (hi : (w.hdr o).data ≠ (w.hdr c).inl) :
    ((uninitGen cfg (w.hdr c).data (w.hdr c).size 0 (srcsMove (w.hdr o).data 0 (w.hdr o).size) >>= fun _ =>
        setSize c ((w.hdr c).size + (w.hdr o).size) >>= fun _ => (pure (w.hdr c).size : M α Nat)) w).sat
      (fun r w' => r = (w.hdr c).size ∧ MoveAppended cfg w w' c o)
      (fun e w' => MoveAppendFail cfg false w w' c o e) := by
  have hne : (w.hdr c).data ≠ (w.hdr o).data := Ne.symm hd
  have hfill := uninitializedMove_sat cfg false (w.hdr o).data 0 (w.hdr o).size (w.hdr c).data (w.hdr c).size w
    (fun k hk => by rw [Nat.zero_add]; exact hvo.objs k hk)
    (fun k hk => hv.raws _ (Nat.le_add_right _ _) (Nat.lt_of_lt_of_le (Nat.add_lt_add_left hk _) hfit))
  rw [uninitializedMove_false] at hfill
  have hself : ∀ n, upd (upd w.hdr o { w.hdr o with size := (w.hdr o).size }) c { w.hdr c with size := n } =
      upd w.hdr c { w.hdr c with size := n } := by
    intro n
    have e1 : ({ w.hdr o with size := (w.hdr o).size } : Vec) = w.hdr o := rfl
    rw [e1, upd_self]
  have srcs : ∀ {w1 : World α}, (∀ k, k < (w.hdr o).size → IsObj w1 (w.hdr o).data (0 + k)) →
      ∀ i, i < (w.hdr o).size → IsObj w1 (w.hdr o).data i := fun h i hi' => Nat.zero_add i ▸ h i hi'
  refine sat_bind hfill (fun _ w1 hr => ?_) ?_
  · have same := hr.same
    rw [setSize_bind, hr.ctl.hdr]
    have hdst : ∀ i, (w.hdr c).size ≤ i → i < (w.hdr c).size + (w.hdr o).size →
        (w1.mem (w.hdr c).data)[i]? = (w.mem (w.hdr o).data)[i - (w.hdr c).size]? := fun i h1 h2 => by
      rw [hr.dst_at i h1 h2, Nat.zero_add]
    obtain ⟨hb1, hb2⟩ := two_inplace cfg
      (w' := { w1 with hdr := upd w.hdr c { w.hdr c with size := (w.hdr c).size + (w.hdr o).size } })
      (nc := (w.hdr c).size + (w.hdr o).size) (no := (w.hdr o).size)
      hv hvo hl hco hd hi (hr.ctl.to0.with_hdr _) (hself _).symm hfit hvo.size_le
      (fun i hi' => by
        by_cases h : i < (w.hdr c).size
        · exact isObj_of_eq (same.fst_lt hne h) (hv.objs i h)
        · exact isObj_of_eq (hdst i (Nat.le_of_not_lt h) hi') (hvo.objs _ (Nat.sub_lt_left_of_lt_add (Nat.le_of_not_lt h) hi')))
      (fun i h1 h2 => isRaw_of_eq (same.fst_ge hne h1) (hv.raws i (Nat.le_trans (Nat.le_add_right _ _) h1) h2))
      (srcs hr.src)
      (fun i h1 h2 => isRaw_of_eq (same.snd_ge hne ((Nat.zero_add _).symm ▸ h1)) (hvo.raws i h1 h2))
      (fun b i n1 n2 _ => same.ne2 n1 n2 i)
    show (w.hdr c).size = (w.hdr c).size ∧ _
    refine ⟨rfl, _, hb1, hb2, ?_⟩
    intro xs ys hx hy
    exact holds_append_of_slots hx rfl ((congrArg Vec.size (upd_same _ _ _)).trans (by rw [hy.1])) (congrArg Vec.data (upd_same _ _ _))
      (fun i hi' => same.fst_lt hne (hx.1 ▸ hi'))
      (fun k hk => by
        have := hr.dst k (by rw [← hy.1]; exact hk)
        rw [Nat.zero_add] at this
        exact this.trans (hy.2 k hk))
  · intro e w1 ⟨he, hf⟩
    have same := hf.same
    have hh1 : w1.hdr = upd (upd w.hdr o { w.hdr o with size := (w.hdr o).size }) c { w.hdr c with size := (w.hdr c).size } := by
      rw [hself]
      have e2 : ({ w.hdr c with size := (w.hdr c).size } : Vec) = w.hdr c := rfl
      rw [e2, upd_self]; exact hf.ctl.hdr
    obtain ⟨hb1, hb2⟩ := two_inplace cfg (w' := w1) (nc := (w.hdr c).size) (no := (w.hdr o).size)
      hv hvo hl hco hd hi hf.ctl.to0 hh1 hv.size_le hvo.size_le
      (fun i hi' => isObj_of_eq (same.fst_lt hne hi') (hv.objs i hi'))
      (fun i h1 h2 => by
        by_cases h : i < (w.hdr c).size + (w.hdr o).size
        · have := hf.dst (i - (w.hdr c).size) (Nat.sub_lt_left_of_lt_add h1 h)
          rwa [Nat.add_sub_cancel' h1] at this
        · exact isRaw_of_eq (same.fst_ge hne (Nat.le_of_not_lt h)) (hv.raws i h1 h2))
      (srcs hf.src)
      (fun i h1 h2 => isRaw_of_eq (same.snd_ge hne ((Nat.zero_add _).symm ▸ h1)) (hvo.raws i h1 h2))
      (fun b i n1 n2 _ => same.ne2 n1 n2 i)
    exact Or.inr ⟨he, Or.inl hf.can, _, hb1, hb2, hf.ctl.hdr, hf.ctl.live⟩

end SvModel
