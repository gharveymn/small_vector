/-
Concrete worlds used by the non-vacuity examples next to the property theorems: container 0 with inline capacity 2,
full ([1, 2] in its inline buffer), for an element type whose every operation may throw.
-/
import SvModel.Proofs.Erase
import SvModel.Proofs.Append

namespace SvModel.Ex

def cfgT : Cfg := { copyThrows := true, moveThrows := true, casgThrows := true, masgThrows := true }

def w0 : World Int :=
  { mem := fun b => if b = 0 then [.obj (.val 1), .obj (.val 2)] else [],
    hdr := fun _ => { N := 2, inl := 0, cap := 2, size := 2, data := 0, alloc := 7 },
    owner := fun _ => 0, live := [], next := 5, ntmp := 6, faults := [], trace := [], ub := [] }

theorem w0_ledger : Ledger w0 := by
  refine ⟨by decide, by decide, fun b hb => by simp [w0] at hb, by simp [w0], ?_, ?_⟩
  · intro b h1 _ _; simp [w0]; omega
  · intro b h1 _; simp [w0]; have : w0.ntmp = 6 := rfl; omega

theorem w0_vec : VecOK cfgT w0 0 := by
  refine ⟨by decide, by decide, by decide, by decide, by decide, by decide, ?_, ?_, fun h => absurd rfl h, fun h => absurd rfl h⟩
  · intro i hi
    have : i < 2 := hi
    match i, this with
    | 0, _ => exact ⟨_, rfl⟩
    | 1, _ => exact ⟨_, rfl⟩
  · intro i h1 h2
    have a : 2 ≤ i := h1
    have b : i < 2 := h2
    omega

theorem w0_holds : Holds w0 0 [.val 1, .val 2] := by
  refine ⟨rfl, ?_⟩
  intro i hi
  have : i < 2 := hi
  match i, this with
  | 0, _ => rfl
  | 1, _ => rfl

theorem argExt (a : Int) (w : World Int) (c : Nat) : ArgOK cfgT w c (.ext a) :=
  ⟨rfl, fun _ _ h => by simp [Src.loc] at h, fun _ _ h => by simp [Src.loc] at h⟩

end SvModel.Ex
