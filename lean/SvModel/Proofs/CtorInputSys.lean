/-
The range constructor for SINGLE-PASS iterators inside a system of containers (hpp: `small_vector_base (first, last, alloc)`
for input iterators: delegate to the default constructor, then `append_range`; an exception leaves through the destructor of
the base sub-object, which is complete at that point).

`SysAll.ctorInput`: in both outcomes the system invariant holds — on return the new container is constructed and holds the
range's values; on a throw it is NOT constructed, its storage is raw again, no block is left allocated — and no other
container is touched in either case.  Assembled from three existing results: construction of the empty container
(`SysAll.ctorFill` on no sources), the single-pass append loop as ONE CALL on a constructed container (`History.step_opSpec`,
case `appendInput false`), and destruction (`SysAll.dtor`).
-/
import SvModel.Properties.History
import SvModel.Proofs.Steal
import SvModel.Properties.CtorProps

namespace SvModel
open Gen History
variable {α : Type}

/-- default construction is `ctorFill` on no sources: the same program on every world -/
theorem ctorDefault_eq_fill' (cfg : Cfg) (c a : Nat) (ch : Bool) (w : World α) :
    ctorDefault c a w = ctorFill cfg c a ch ([] : List (Src α)) w := by
  unfold ctorDefault ctorFill setDefault
  rfl

theorem SysAll.ctorInput {cfg : Cfg} {w : World α} {U A : List Nat} {c : Nat} (hs : SysAll cfg w U A) (hcU : c ∈ U) (hcA : c ∉ A)
    (hpol : StrongPolicy cfg) (a sid : Nat) (vs : List α) :
    (SvModel.ctorInput cfg c a sid vs w).sat
      (fun _ w' => SysAll cfg w' U (c :: A) ∧ Holds w' c (vs.map Val.val) ∧
                   ∀ d ∈ A, w'.hdr d = w.hdr d ∧ w'.mem (w.hdr d).data = w.mem (w.hdr d).data)
      (fun _ w' => SysAll cfg w' U A ∧
                   ∀ d ∈ A, w'.hdr d = w.hdr d ∧ w'.mem (w.hdr d).data = w.mem (w.hdr d).data) := by
  have hneA : ∀ d ∈ A, d ≠ c := fun d hd h => hcA (h ▸ hd)
  have hc1 : c ∈ c :: A := List.mem_cons_self
  unfold SvModel.ctorInput
  -- a throw of the default constructor (there is none) would leave what a throw of `ctorFill` leaves
  refine sat_bind ((ctorDefault_eq_fill' cfg c a true w) ▸ SysAll.ctorEmpty hs hcU hcA a true)
    (fun _ w1 ⟨hs1, hx1, _, hoth1⟩ => ?_) (fun _ _ ⟨h1, _, h2⟩ => ⟨h1, h2⟩)
  have hstep := step_opSpec cfg c (.appendInput false sid vs) w1 [] ⟨hs1.ok.vec c hc1, hs1.ok.led, hs1.ok.nmax c hc1, hs1.ok.ub⟩ hpol hx1 trivial
  have others : ∀ {w2 : World α}, Basic cfg w1 w2 c → ∀ d ∈ A, w2.hdr d = w.hdr d ∧ w2.mem (w.hdr d).data = w.mem (w.hdr d).data := by
    intro w2 hb d hd
    obtain ⟨hh, hm, _⟩ := hs1.ok.other hc1 hb d (List.mem_cons_of_mem _ hd) (hneA d hd)
    obtain ⟨hh1, hm1⟩ := hoth1 d hd
    exact ⟨hh.trans hh1, by rw [← hh1, hm, hh1, hm1]⟩
  refine sat_tryCatch (Res.sat_mono hstep (fun _ w2 ⟨hb, hx2⟩ => ⟨hs1.step hc1 hb, by simpa [SOp.spec, L0.append] using hx2, others hb⟩)
    (fun _ _ h => h)) (fun e w2 ⟨hb, _⟩ => ?_)
  refine sat_bind (SysAll.dtor (hs1.step hc1 hb) hc1) (fun _ w3 ⟨hs3, hh3, hm3⟩ => ?_) (fun _ _ h => h.elim)
  refine ⟨hs3.congr (fun x => (mem_filter_cons_ne hcA).symm), fun d hd => ?_⟩
  obtain ⟨hh2, hm2⟩ := others hb d hd
  exact ⟨by rw [hh3]; exact hh2, by rw [← hh2, hm3 d (List.mem_cons_of_mem _ hd) (hneA d hd), hh2]; exact hm2⟩

end SvModel
