/-
Copy assignment (`copy_assign_default`, `copy_assign`; operator= (const small_vector&) and assign (const small_vector&),
for every pair of inline capacities).

The same-allocator / non-propagating path `copy_assign_default` IS `assign_with_range` over the source's elements
followed by the allocator hand-over: `copyAssignDefault_eq` proves the two model programs equal (the source's size never
exceeds max_size, so the checked and the unchecked capacity computations agree; destroying the surplus and setting the
size commute).  Its specification is therefore the one of `assignWithRangeFwd_foreign_sat` with the source's elements
as `Foreign` sources: refinement (the destination holds the source's values, the source is untouched), `Basic` in both
outcomes (C02/C03/C04/C06), in place when the contents fit (C10), strong when it reallocates.
-/
import SvModel.Proofs.Assign
import SvModel.Proofs.SysInv
import SvModel.Proofs.Rel

namespace SvModel
open Gen
variable {α : Type}

def Res.mapW {β : Type} (f : World α → World α) : Res (World α) β → Res (World α) β
  | .ok b w => .ok b (f w)
  | .thrown e w => .thrown e (f w)

theorem destroyAt_hdr (cfg : Cfg) (b i : Nat) (w : World α) (h : Nat → Vec) :
    destroyAt cfg b i { w with hdr := h } = Res.mapW (fun w' => { w' with hdr := h }) (destroyAt cfg b i w) := by
  unfold destroyAt
  simp only []
  split <;> rfl

theorem destroyRange_hdr (cfg : Cfg) (b : Nat) : ∀ (n first : Nat) (w : World α) (h : Nat → Vec),
    destroyRange cfg b first n { w with hdr := h } = Res.mapW (fun w' => { w' with hdr := h }) (destroyRange cfg b first n w)
  | 0, _, _, _ => rfl
  | n+1, first, w, h => by
    unfold destroyRange
    rw [bind_run, bind_run, destroyAt_hdr]
    cases hd : destroyAt cfg b first w with
    | ok u w1 => simp only [Res.mapW]; exact destroyRange_hdr cfg b n (first + 1) w1 h
    | thrown e w1 => rfl

def HdrKept {β : Type} (m : M α β) : Prop := ∀ w, (m w).world.hdr = w.hdr

theorem HdrKept.graded : Graded (fun (_ : Nat) (w w' : World α) => w'.hdr = w.hdr) :=
  Graded.const (fun _ => rfl) (fun h1 h2 => h2.trans h1)

theorem HdrKept.bind {β γ : Type} {m : M α β} {f : β → M α γ} (h1 : HdrKept m) (h2 : ∀ b, HdrKept (f b)) : HdrKept (m >>= f) :=
  Rel.bind (k1 := 0) (k2 := 0) HdrKept.graded h1 h2

theorem HdrKept.tick (on : Bool) (e : Exc) : HdrKept (tick on e : M α Unit) := by
  intro w; unfold SvModel.tick
  cases on
  · rfl
  · match w.faults with
    | [] => rfl
    | 0 :: _ => rfl
    | (_+1) :: _ => rfl

theorem HdrKept.readSlot (b i : Nat) : HdrKept (readSlot b i : M α (Val α)) := by
  intro w; unfold SvModel.readSlot; split <;> rfl
theorem HdrKept.setObj (cfg : Cfg) (b i : Nat) (v : Val α) (e : Ev) : HdrKept (setObj cfg b i v e : M α Unit) := by
  intro w; unfold SvModel.setObj; split <;> rfl
theorem HdrKept.huskSlot (cfg : Cfg) (b i : Nat) : HdrKept (huskSlot cfg b i : M α Unit) := by
  intro w; unfold SvModel.huskSlot; split
  · split <;> rfl
  · rfl
theorem HdrKept.destroyAt (cfg : Cfg) (b i : Nat) : HdrKept (destroyAt cfg b i : M α Unit) := by
  intro w; unfold SvModel.destroyAt; split <;> rfl

theorem HdrKept.destroyRange (cfg : Cfg) (b : Nat) : ∀ (n first : Nat), HdrKept (destroyRange cfg b first n : M α Unit)
  | 0, _ => fun _ => rfl
  | n+1, first => by
    unfold SvModel.destroyRange
    exact HdrKept.bind (HdrKept.destroyAt cfg b first) (fun _ => HdrKept.destroyRange cfg b n (first + 1))

theorem HdrKept.assignSrc (cfg : Cfg) (b i : Nat) (s : Src α) : HdrKept (assignSrc cfg b i s : M α Unit) := by
  cases s with
  | ext a => exact HdrKept.bind (HdrKept.tick _ _) (fun _ => HdrKept.setObj _ _ _ _ _)
  | extMove a => exact HdrKept.bind (HdrKept.tick _ _) (fun _ => HdrKept.setObj _ _ _ _ _)
  | copyOf b' i' => exact HdrKept.bind (HdrKept.tick _ _) (fun _ => HdrKept.bind (HdrKept.readSlot _ _) (fun _ => HdrKept.setObj _ _ _ _ _))
  | moveOf b' i' =>
    exact HdrKept.bind (HdrKept.tick _ _) (fun _ => HdrKept.bind (HdrKept.readSlot _ _)
      (fun _ => HdrKept.bind (HdrKept.setObj _ _ _ _ _) (fun _ => HdrKept.huskSlot _ _ _)))
  | value a => exact HdrKept.bind (HdrKept.tick _ _) (fun _ => HdrKept.setObj _ _ _ _ _)

theorem HdrKept.assignGen (cfg : Cfg) (b : Nat) : ∀ (srcs : List (Src α)) (d : Nat), HdrKept (assignGen cfg b d srcs : M α Unit)
  | [], _ => fun _ => rfl
  | s :: rest, d => by
    unfold SvModel.assignGen
    exact HdrKept.bind (HdrKept.assignSrc cfg b d s) (fun _ => HdrKept.assignGen cfg b rest (d + 1))

theorem destroy_then_setSize (cfg : Cfg) (c b f n k : Nat) (w : World α) :
    (destroyRange cfg b f n >>= fun _ => setSize c k) w = (setSize c k >>= fun _ => destroyRange cfg b f n) w := by
  rw [bind_run, bind_run, setSize_run]
  simp only []
  rw [destroyRange_hdr cfg b n f w (upd w.hdr c { w.hdr c with size := k })]
  have hk := HdrKept.destroyRange cfg b n f w
  cases hd : destroyRange cfg b f n w with
  | thrown e w2 =>
    obtain ⟨_, w3, h3⟩ := destroyRange_nothrow cfg b n f w
    rw [hd] at h3; cases h3
  | ok u w2 =>
    rw [hd] at hk
    simp only [Res.world] at hk
    simp only [Res.mapW]
    rw [setSize_run, hk]

theorem copyInPlace_eq (cfg : Cfg) (c o : Nat) (w : World α) (hfit : ¬ (w.hdr c).cap < (w.hdr o).size) :
    (copyAssignInPlace cfg c (w.hdr c) (w.hdr o) (decide ((w.hdr c).size < (w.hdr o).size)) >>= fun _ => setSize c (w.hdr o).size) w =
      assignWithRangeFwd cfg c (srcsCopy (w.hdr o).data 0 (w.hdr o).size) w := by
  -- Both programs assign over the common prefix and differ in the tail.  A longer source: both construct the rest and
  -- set the size.  Otherwise `assign_with_range` erases `[size o, size c)` (set the size, then destroy), copy assignment
  -- destroys first and sets the size afterwards; the two orders commute (`destroy_then_setSize`), and when nothing is
  -- to be erased setting the size changes nothing.
  unfold assignWithRangeFwd
  rw [assignWithRange_calls.1, assignWithRange_calls.2]
  simp only [calcNewCapacity_checked, allocateBy_unchecked]
  rw [bind_run (m := getV c), getV_run]
  simp only [srcsCopy_length]
  rw [guard_assignWithRange1_0_eq, guard_assignWithRange1_1_eq]
  simp only [hfit, decide_false, Bool.false_eq_true, if_false]
  by_cases hless : (w.hdr c).size < (w.hdr o).size
  · simp only [hless, decide_true, if_true]
    unfold copyAssignInPlace
    simp only [if_true]
    rw [srcsCopy_take _ _ _ _ (Nat.le_of_lt hless), srcsCopy_drop, Nat.zero_add]
    simp only [bind_run]
    cases assignGen cfg (w.hdr c).data 0 (srcsCopy (w.hdr o).data 0 (w.hdr c).size) w with
    | thrown e w1 => rfl
    | ok u w1 => rfl
  · simp only [hless, decide_false, Bool.false_eq_true, if_false]
    unfold copyAssignInPlace
    simp only [Bool.false_eq_true, if_false]
    rw [bind_assoc_run]
    refine bind_congr_ok (fun u w1 h1 => ?_)
    · simp only [bind_run]
      have hh1 : w1.hdr = w.hdr := by
        have := HdrKept.assignGen cfg (w.hdr c).data (srcsCopy (w.hdr o).data 0 (w.hdr o).size) 0 w
        rw [h1] at this
        exact this
      unfold eraseRange
      rw [bind_run, getV_run, hh1]
      simp only []
      rw [guard_eraseRange_0_eq]
      by_cases heq : (w.hdr c).size - (w.hdr o).size = 0
      · simp only [heq, ne_eq, not_true_eq_false, decide_false, Bool.false_eq_true, if_false]
        have hd0 : destroyRange cfg (w.hdr c).data (w.hdr o).size 0 w1 = .ok () w1 := rfl
        rw [hd0]
        simp only []
        rw [setSize_run]
        have hsame : (w.hdr o).size = (w1.hdr c).size := by rw [hh1]; omega
        have : ({ w1 with hdr := upd w1.hdr c { w1.hdr c with size := (w.hdr o).size } } : World α) = w1 := by
          rw [hsame, upd_self]
        rw [this]
        rfl
      · simp only [heq, ne_eq, not_false_eq_true, decide_true, if_true]
        rw [bind_run, Nat.sub_self, moveLeft_zero]
        simp only [Nat.add_zero]
        unfold eraseToEnd
        rw [bind_run, bind_run, getV_run, hh1]
        simp only []
        rw [guard_eraseToEnd_0_eq]
        simp only [heq, ne_eq, not_false_eq_true, decide_true, if_true]
        have hcomm := destroy_then_setSize cfg c (w.hdr c).data (w.hdr o).size ((w.hdr c).size - (w.hdr o).size) (w.hdr o).size w1
        rw [bind_run] at hcomm
        rw [hcomm]
        cases (setSize c (w.hdr o).size >>= fun _ => destroyRange cfg (w.hdr c).data (w.hdr o).size ((w.hdr c).size - (w.hdr o).size)) w1 <;> rfl

theorem copyAssignDefault_eq (cfg : Cfg) (c o : Nat) (w : World α) (hsz : (w.hdr o).size ≤ cfg.maxSize) :
    copyAssignDefault cfg c o w =
      (assignWithRangeFwd cfg c (srcsCopy (w.hdr o).data 0 (w.hdr o).size) >>= fun _ =>
        setAlloc c (maybeCopy cfg.policy (w.hdr c).alloc (w.hdr o).alloc)) w := by
  unfold copyAssignDefault
  rw [getV_bind, getV_bind]
  rw [guard_copyAssignDefault_0_eq, guard_copyAssignDefault_1_eq]
  by_cases hgrow : (w.hdr c).cap < (w.hdr o).size
  · unfold assignWithRangeFwd
    rw [assignWithRange_calls.1, assignWithRange_calls.2]
    simp only [calcNewCapacity_checked, allocateBy_unchecked]
    rw [bind_run (m := getV c >>= _), bind_run (m := getV c), getV_run]
    simp only [srcsCopy_length]
    rw [guard_assignWithRange1_0_eq]
    simp only [hgrow, decide_true, if_true]
    simp only [bind_run, checkedCalc_run, if_neg (show ¬ cfg.maxSize < (w.hdr o).size by omega)]
  · simp only [hgrow, decide_false, Bool.false_eq_true, if_false]
    exact bind_congr_run (copyInPlace_eq cfg c o w hgrow) _

theorem srcsOK_of_other {cfg : Cfg} {w : World α} {o : Nat} (hvo : VecOK cfg w o) (hl : Ledger w) :
    SrcsOK cfg w (srcsCopy (w.hdr o).data 0 (w.hdr o).size) := by
  refine ⟨fun s hs => ?_, fun s hs b i hl' => ?_, fun s hs b i hl' => ?_⟩
  · obtain ⟨k, _, rfl⟩ := mem_srcsCopy hs; rfl
  · obtain ⟨k, hk, rfl⟩ := mem_srcsCopy hs
    simp [Src.loc] at hl'
    obtain ⟨h1, h2⟩ := hl'
    subst h1; subst h2
    have := hvo.objs k hk
    unfold IsObj at this
    simpa using this
  · obtain ⟨k, hk, rfl⟩ := mem_srcsCopy hs
    simp [Src.loc] at hl'
    rw [← hl'.1]
    exact hvo.data_lt_next hl

theorem foreign_of_other {cfg : Cfg} {w : World α} {c o : Nat} (hvo : VecOK cfg w o) (hl : Ledger w)
    (hd : (w.hdr o).data ≠ (w.hdr c).data) (hi : (w.hdr o).data ≠ (w.hdr c).inl) :
    Foreign cfg w c (srcsCopy (w.hdr o).data 0 (w.hdr o).size) := by
  have h := srcsOK_of_other (cfg := cfg) hvo hl
  refine ⟨h.nonmoving, h.live, fun s hs b i hl' => ?_⟩
  obtain ⟨k, hk, rfl⟩ := mem_srcsCopy hs
  simp [Src.loc] at hl'
  rw [← hl'.1]
  exact ⟨hd, hi, hvo.data_lt_next hl⟩

theorem srcsCopy_vals {w : World α} {o : Nat} {ys : List (Val α)} (hy : Holds w o ys) :
    (srcsCopy (w.hdr o).data 0 (w.hdr o).size).map (srcVal w) = ys := by
  apply List.ext_getElem (by simp [hy.1])
  intro i h1 h2
  simp only [List.getElem_map, srcsCopy_get]
  have := hy.2 i h2
  rw [Nat.zero_add, srcVal_copyOf w _ _ _ this]

theorem setAlloc_same (c : Nat) (w : World α) : setAlloc c (w.hdr c).alloc w = .ok () w := by
  show Res.ok () ({ w with hdr := upd w.hdr c { w.hdr c with alloc := (w.hdr c).alloc } } : World α) = _
  rw [upd_self]

/-- COPY ASSIGNMENT, same-allocator / non-propagating path (`copy_assign_default`): the destination ends up holding the
    source's values; `Basic` in both outcomes; in place when the source fits in the current capacity; a throw while
    reallocating changes nothing.  `hal`: the allocator the destination keeps/receives is (equal to) its own — the
    condition under which the header selects this path. -/
theorem copyAssignDefault_sat (cfg : Cfg) (c o : Nat) (w : World α)
    (hv : VecOK cfg w c) (hl : Ledger w)
    (hvo : VecOK cfg w o) (hNo : (w.hdr o).N ≤ cfg.maxSize)
    (hfor : Foreign cfg w c (srcsCopy (w.hdr o).data 0 (w.hdr o).size))
    (hal : maybeCopy cfg.policy (w.hdr c).alloc (w.hdr o).alloc = (w.hdr c).alloc) :
    (copyAssignDefault cfg c o w).sat
      (fun _ w' => Assigned cfg w w' c ((srcsCopy (w.hdr o).data 0 (w.hdr o).size).map (srcVal w)))
      (fun _ w' => InsBasic cfg w w' c ∧ ((w.hdr c).cap < (w.hdr o).size → Strong w w')) := by
  have hsz : (w.hdr o).size ≤ cfg.maxSize := Nat.le_trans hvo.size_le (hvo.cap_le_max hNo)
  rw [copyAssignDefault_eq cfg c o w hsz, hal]
  have h := assignWithRangeFwd_foreign_sat cfg c _ w hv hl hfor
  refine sat_bind h (fun _ w' ha => ?_) (fun e w' he => ⟨he.1, by simpa using he.2.2⟩)
  have : (w.hdr c).alloc = (w'.hdr c).alloc := ha.alloc.symm
  rw [this, setAlloc_same]
  exact ha

theorem SysOK.foreign {cfg : Cfg} {w : World α} {A : List Nat} {c o : Nat} (hs : SysOK cfg w A) (hc : c ∈ A) (ho : o ∈ A) (hoc : o ≠ c) :
    Foreign cfg w c (srcsCopy (w.hdr o).data 0 (w.hdr o).size) := by
  by_cases hz : (w.hdr o).size = 0
  · rw [hz]
    exact ⟨fun s h => by simp [srcsCopy] at h, fun s h => by simp [srcsCopy] at h, fun s h => by simp [srcsCopy] at h⟩
  · obtain ⟨hd, hi⟩ := hs.buffers_apart hc ho hoc (Or.inl (by have := (hs.vec o ho).size_le; omega))
    exact foreign_of_other (hs.vec o ho) hs.led hd hi

theorem copyAssign_default (cfg : Cfg) (c o : Nat) (w : World α)
    (h : (w.hdr o).alloc = (w.hdr c).alloc ∨ cfg.pocca = false) :
    copyAssign cfg c o w = copyAssignDefault cfg c o w ∧
    maybeCopy cfg.policy (w.hdr c).alloc (w.hdr o).alloc = (w.hdr c).alloc := by
  constructor
  · unfold copyAssign
    by_cases hp : copyAssignPropagating cfg.policy = true
    · rw [hp]; simp only [Bool.not_true, Bool.false_eq_true, if_false]
      rw [getV_bind, getV_bind]
      have hpo : cfg.pocca = true := by
        unfold copyAssignPropagating Cfg.policy at hp; simp only [Bool.and_eq_true] at hp; exact hp.1
      rcases h with h | h
      · rw [guard_copyAssign0_0_eq, h]; simp
      · rw [hpo] at h; cases h
    · have : copyAssignPropagating cfg.policy = false := by simpa using hp
      rw [this]; simp
  · unfold maybeCopy Cfg.policy
    simp only []
    rcases h with h | h
    · rw [h]; split <;> rfl
    · rw [h]; simp

end SvModel
