/-
Buffer hand-over inside a system of containers (the O(1) paths of move construction and move assignment, C09;
"being the source of a move" in C02).

`SysAll.adopt`  — container `c` is unborn storage (not yet constructed, or just wiped), container `o` is constructed and
                  on the heap with a buffer larger than `c`'s inline capacity: rewriting the two headers so that `c`
                  takes `o`'s (data, capacity, size) and `o` becomes empty and inlined yields a valid system again in
                  which `c` is constructed, holds exactly what `o` held, owns the block, and `o` is a valid empty
                  container.  No memory, ledger, trace or fault-list change is involved.
`SysAll.congr`  — the system invariant only depends on WHICH containers are constructed.
-/
import SvModel.Proofs.Handover

namespace SvModel
open Gen
variable {α : Type}

theorem SysAll.congr {cfg : Cfg} {w : World α} {U A B : List Nat} (hs : SysAll cfg w U A) (h : ∀ x, x ∈ B ↔ x ∈ A) : SysAll cfg w U B :=
  ⟨fun c hc => hs.sub c ((h c).mp hc),
   ⟨fun c hc => hs.ok.vec c ((h c).mp hc), fun c hc => hs.ok.nmax c ((h c).mp hc), hs.ok.led, hs.ok.ub,
    fun c hc d hd hcd => hs.ok.sep c ((h c).mp hc) d ((h d).mp hd) hcd,
    fun b hb => by obtain ⟨c, hc, hcd⟩ := hs.ok.noleak b hb; exact ⟨c, (h c).mpr hc, hcd⟩⟩,
   fun c hc hn => hs.unborn c hc (fun hA => hn ((h c).mpr hA)), hs.nmaxU, hs.inlsep⟩

def adoptW (w : World α) (c o a' : Nat) : World α :=
  { w with hdr := upd (upd w.hdr c { w.hdr c with data := (w.hdr o).data, cap := (w.hdr o).cap, size := (w.hdr o).size, alloc := a' })
                      o { w.hdr o with data := (w.hdr o).inl, cap := (w.hdr o).N, size := 0 } }

theorem adoptW_hdr_c (w : World α) {c o : Nat} (hoc : o ≠ c) (a' : Nat) : (adoptW w c o a').hdr c =
    { w.hdr c with data := (w.hdr o).data, cap := (w.hdr o).cap, size := (w.hdr o).size, alloc := a' } :=
  upd_upd_fst _ (Ne.symm hoc) _ _

theorem adoptW_hdr_o (w : World α) (c o a' : Nat) :
    (adoptW w c o a').hdr o = { w.hdr o with data := (w.hdr o).inl, cap := (w.hdr o).N, size := 0 } :=
  upd_same _ _ _

theorem adoptW_hdr_other (w : World α) {c o d : Nat} (a' : Nat) (h1 : d ≠ c) (h2 : d ≠ o) : (adoptW w c o a').hdr d = w.hdr d :=
  (upd_other _ _ _ _ h2).trans (upd_other _ _ _ _ h1)

theorem SysAll.adopt {cfg : Cfg} {w : World α} {U A : List Nat} {c o : Nat} (hs : SysAll cfg w U A)
    (hcU : c ∈ U) (hcA : c ∉ A) (ho : o ∈ A)
    (hheap : (w.hdr o).N < (w.hdr o).cap) (hbig : (w.hdr c).N < (w.hdr o).cap) (a' : Nat) (ha : (w.hdr o).alloc = a') :
    SysAll cfg (adoptW w c o a') U (c :: A) ∧
    (∀ xs, Holds w o xs → Holds (adoptW w c o a') c xs) ∧ Holds (adoptW w c o a') o [] ∧
    (∀ d ∈ A, d ≠ o → (adoptW w c o a').hdr d = w.hdr d) ∧ (adoptW w c o a').mem = w.mem := by
  have hoc : o ≠ c := fun h => hcA (h ▸ ho)
  have hvo := hs.ok.vec o ho
  have hl := hs.ok.led
  have hu := hs.unborn c hcU hcA
  have hoheap : (w.hdr o).data ≠ (w.hdr o).inl := (hvo.heap_iff).mp hheap
  obtain ⟨hoidle_len, hoidle_raw⟩ := hvo.idle hoheap
  have hhc := adoptW_hdr_c w hoc a'
  have hho := adoptW_hdr_o w c o a'
  have hhd : ∀ d, d ≠ c → d ≠ o → (adoptW w c o a').hdr d = w.hdr d := fun d => adoptW_hdr_other w a'
  have hmem : (adoptW w c o a').mem = w.mem := rfl
  have hlive : (adoptW w c o a').live = w.live := rfl
  have hown : (adoptW w c o a').owner = w.owner := rfl
  have hub : (adoptW w c o a').ub = w.ub := rfl
  have hled : Ledger (adoptW w c o a') := hl.with_hdr _
  generalize adoptW w c o a' = w' at *
  have hocapmax : (w.hdr o).cap ≤ cfg.maxSize := hvo.cap_le_max (hs.ok.nmax o ho)
  have hdi : (w.hdr o).data ≠ (w.hdr c).inl := by have := hu.inl_lt; have := (hvo.data_odd hl hoheap).1; omega
  have hvc' : VecOK cfg w' c :=
    { size_le := by rw [hhc]; exact hvo.size_le
      cap_ge := by rw [hhc]; exact Nat.le_of_lt hbig
      cap_max := by rw [hhc]; exact Nat.le_trans hocapmax (Nat.le_max_left _ _)
      inl_iff := by rw [hhc]; exact ⟨fun h => absurd h (Nat.ne_of_gt hbig), fun h => absurd h hdi⟩
      inl_lt := by rw [hhc]; exact hu.inl_lt
      len := by rw [hhc, hmem]; exact hvo.len
      objs := by rw [hhc]; intro i hi; unfold IsObj; rw [hmem]; exact hvo.objs i hi
      raws := by rw [hhc]; intro i h1 h2; unfold IsRaw; rw [hmem]; exact hvo.raws i h1 h2
      heap := by rw [hhc]; intro _; rw [hlive, hown]; exact ⟨(hvo.heap hoheap).1, by rw [(hvo.heap hoheap).2, ha]⟩
      idle := by rw [hhc]; intro _; exact ⟨by rw [hmem]; exact hu.len, fun i hi => by unfold IsRaw; rw [hmem]; exact hu.raws i hi⟩ }
  have hvo' : VecOK cfg w' o :=
    VecOK.mk_inline (v := w.hdr o) hho (Nat.zero_le _) hvo.inl_lt (by rw [hmem]; exact hoidle_len)
      (fun i hi => absurd hi (Nat.not_lt_zero i)) (fun i _ h2 => by unfold IsRaw; rw [hmem]; exact hoidle_raw i h2)
  have hother : ∀ d ∈ A, d ≠ o → w'.hdr d = w.hdr d := fun d hd hdo => hhd d (fun h => hcA (h ▸ hd)) hdo
  have hsh : SameShape w w' := SameShape.of_other2 hhd (by rw [hhc]; exact ⟨rfl, rfl⟩) (by rw [hho]; exact ⟨rfl, rfl⟩)
  refine ⟨hs.join hsh hcU hvc' ?_ ?_ hled hub ?_ ?_ ?_, ?_, ?_, hother, hmem⟩
  · intro d hd
    by_cases hdo : d = o
    · rw [hdo]; exact hvo'
    · exact ((hs.ok.vec d hd).of_mem_eq (hother d hd hdo) (by rw [hmem])
        (fun hne => ⟨by rw [hmem], by rw [hlive]; exact ((hs.ok.vec d hd).heap hne).1, by rw [hown]⟩)).1
  · intro d hd
    by_cases hdo : d = o
    · rw [hdo, hho]; exact Or.inr rfl
    · rw [hother d hd hdo]; exact Or.inl rfl
  · -- the buffer changed hands: it was nobody's but `o`'s
    intro d hd _ hnd
    by_cases hdo : d = o
    · rw [hdo, hho] at hnd; exact absurd rfl hnd
    · rw [hhc, hother d hd hdo]; exact (hs.ok.sep o ho d hd (Ne.symm hdo)).data hoheap
  · intro b hb
    rw [hlive] at hb
    obtain ⟨d, hd, hdd⟩ := hs.ok.noleak b hb
    by_cases hdo : d = o
    · exact ⟨c, List.mem_cons_self, by rw [hhc]; simp only []; rw [← hdo]; exact hdd⟩
    · exact ⟨d, List.mem_cons_of_mem _ hd, by rw [hother d hd hdo]; exact hdd⟩
  · intro d hdU hdA hdc
    exact (hs.unborn d hdU hdA).of_mem_eq (hhd d hdc (fun h => hdA (h ▸ ho))) (by rw [hmem])
  · intro xs hx
    exact ⟨by rw [hhc]; exact hx.1, fun i hi => by rw [hhc, hmem]; exact hx.2 i hi⟩
  · exact ⟨by rw [hho]; rfl, fun i hi => by simp at hi⟩

end SvModel
