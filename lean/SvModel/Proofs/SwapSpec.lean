/-
`std::swap` of two elements through a stack temporary, and `std::swap_ranges`.
`swapAt`:      tmp (move x); x = move y; y = move tmp; ~tmp.   On return the two values are exchanged (whether the type
               really moves or "move" is a copy); when the move constructor or one of the two move assignments throws,
               both slots still hold objects (possibly moved-from), the temporary is gone, nothing else changed.
`swapRanges`:  element-wise over two ranges of different blocks.
-/
import SvModel.Proofs.AssignSpec
import SvModel.Proofs.Inv

namespace SvModel
variable {α : Type}

/-- what any outcome of a swap loop over slots `S` guarantees: control state up to temporaries, every block other than
    the temporaries untouched outside `S` -/
structure SwapFrame (w w' : World α) (S : Nat → Nat → Prop) : Prop where
  ctl  : Ctl0 w w'
  hdr  : w'.hdr = w.hdr
  rest : ∀ b i, b < w.ntmp ∨ b % 2 = 1 → ¬ S b i → (w'.mem b)[i]? = (w.mem b)[i]?

theorem SwapFrame.refl (w : World α) (S : Nat → Nat → Prop) : SwapFrame w w S :=
  ⟨Ctl0.refl w, rfl, fun _ _ _ _ => rfl⟩

/-- a block that is not a temporary yet to be created stays one -/
theorem SwapFrame.cls {w w' : World α} {S : Nat → Nat → Prop} (h : SwapFrame w w' S) {b : Nat}
    (hb : b < w.ntmp ∨ b % 2 = 1) : b < w'.ntmp ∨ b % 2 = 1 :=
  hb.imp (fun h' => Nat.lt_of_lt_of_le h' h.ctl.ntmp.1) id

theorem SwapFrame.ntmp_ok {w w' : World α} {S : Nat → Nat → Prop} (h : SwapFrame w w' S)
    (hnt : w.ntmp % 2 = 0 ∧ 6 ≤ w.ntmp) : w'.ntmp % 2 = 0 ∧ 6 ≤ w'.ntmp :=
  ⟨h.ctl.ntmp.2.trans hnt.1, Nat.le_trans hnt.2 h.ctl.ntmp.1⟩

theorem SwapFrame.trans {a b c : World α} {S : Nat → Nat → Prop} (h1 : SwapFrame a b S) (h2 : SwapFrame b c S) : SwapFrame a c S :=
  ⟨h1.ctl.trans h2.ctl, h2.hdr.trans h1.hdr,
   fun x i hx hn => (h2.rest x i (h1.cls hx) hn).trans (h1.rest x i hx hn)⟩

theorem SwapFrame.mono {w w' : World α} {S T : Nat → Nat → Prop} (h : SwapFrame w w' S) (hst : ∀ b i, S b i → T b i) : SwapFrame w w' T :=
  ⟨h.ctl, h.hdr, fun b i hb hn => h.rest b i hb (fun hs => hn (hst b i hs))⟩

theorem swapAt_sat (c : Cfg) (b1 i1 b2 i2 : Nat) (w : World α)
    (hnt : w.ntmp % 2 = 0 ∧ 6 ≤ w.ntmp)
    (hc1 : b1 < w.ntmp ∨ b1 % 2 = 1) (hc2 : b2 < w.ntmp ∨ b2 % 2 = 1)
    (hne : (b1, i1) ≠ (b2, i2)) (h1 : IsObj w b1 i1) (h2 : IsObj w b2 i2) :
    (swapAt c b1 i1 b2 i2 w).sat
      (fun _ w' => SwapFrame w w' (fun b i => (b, i) = (b1, i1) ∨ (b, i) = (b2, i2)) ∧
          (w'.mem b1)[i1]? = (w.mem b2)[i2]? ∧ (w'.mem b2)[i2]? = (w.mem b1)[i1]?)
      (fun e w' => e = .elem ∧ SwapFrame w w' (fun b i => (b, i) = (b1, i1) ∨ (b, i) = (b2, i2)) ∧ IsObj w' b1 i1 ∧ IsObj w' b2 i2) := by
  obtain ⟨v1, hv1⟩ := h1
  obtain ⟨v2, hv2⟩ := h2
  -- the temporary's block id is even and not below w.ntmp, the blocks of the two slots are odd or below
  have hcls : ∀ {b : Nat}, w.ntmp ≤ b → b % 2 = 0 → ¬ (b < w.ntmp ∨ b % 2 = 1) :=
    fun h1 h2 h => h.elim (Nat.not_lt_of_le h1) (fun h => by rw [h2] at h; cases h)
  have ht1 : w.ntmp ≠ b1 := fun e => hcls (Nat.le_refl _) hnt.1 (e ▸ hc1)
  have ht2 : w.ntmp ≠ b2 := fun e => hcls (Nat.le_refl _) hnt.1 (e ▸ hc2)
  have hxt : (b1, i1) ≠ (w.ntmp, 0) := by intro h; injection h with h _; exact ht1 h.symm
  have hyt : (b2, i2) ≠ (w.ntmp, 0) := by intro h; injection h with h _; exact ht2 h.symm
  unfold swapAt
  obtain ⟨w1, hrun, hc01, hh1, hnt1, hmem1, hraw1⟩ := allocTemp_sat w hnt
  rw [hrun]
  have hx1 : (w1.mem b1)[i1]? = some (.obj v1) := by rw [hmem1 b1 (Ne.symm ht1)]; exact hv1
  have hy1 : (w1.mem b2)[i2]? = some (.obj v2) := by rw [hmem1 b2 (Ne.symm ht2)]; exact hv2
  -- every world below differs from w1 in the temporary and the two slots only
  have frame_of : ∀ (w' : World α), Ctl w1 w' →
      (∀ b i, ¬ ((b, i) = (w.ntmp, 0) ∨ (b, i) = (b1, i1) ∨ (b, i) = (b2, i2)) → (w'.mem b)[i]? = (w1.mem b)[i]?) →
      SwapFrame w w' (fun b i => (b, i) = (b1, i1) ∨ (b, i) = (b2, i2)) := by
    intro w' hc hsame
    have hrest : ∀ b i, b ≠ w.ntmp → ¬ ((b, i) = (b1, i1) ∨ (b, i) = (b2, i2)) → (w'.mem b)[i]? = (w.mem b)[i]? := fun b i hb hn => by
      rw [hsame b i (fun h => h.elim (fun e => by injection e with e _; exact hb e) hn), hmem1 b hb]
    exact ⟨hc01.trans hc.to0, hc.hdr.trans hh1, fun b i hb => hrest b i (fun e => hcls (Nat.le_of_eq e.symm) (e ▸ hnt.1) hb)⟩
  have live : ∀ {w' : World α} {b i : Nat} {v : Val α}, (w'.mem b)[i]? = some (.obj v) → SrcLive w' (Src.moveOf b i : Src α) :=
    fun hv b' i' hl => by cases hl; exact ⟨_, hv⟩
  refine sat_bind (constructSrc_sat c w.ntmp 0 (.moveOf b1 i1) w1 hraw1 (live hx1))
    (fun _ w2 hw2 => ?_) (fun e w2 ⟨he, hq⟩ => ?_)
  rotate_left
  · -- the move constructor of the temporary threw: nothing happened
    exact ⟨he.1, frame_of w2 hq.2 (fun b i _ => by rw [hq.1]), ⟨v1, by rw [hq.1]; exact hx1⟩, ⟨v2, by rw [hq.1]; exact hy1⟩⟩
  have ht12 := hw2.touched.mono (Q := fun b i => (b, i) = (w.ntmp, 0) ∨ (b, i) = (b1, i1) ∨ (b, i) = (b2, i2))
    (fun b i h => h.imp id (fun e => Or.inl (by injection e with e; exact e.symm)))
  obtain ⟨u1, hu1⟩ := ht12.isObj ⟨v1, hx1⟩
  have hy2 : (w2.mem b2)[i2]? = some (.obj v2) :=
    (hw2.rest b2 i2 hyt (fun e => hne (by injection e with e))).trans hy1
  have htv2 : (w2.mem w.ntmp)[0]? = some (.obj v1) := by rw [hw2.dst, srcVal_moveOf w1 b1 i1 v1 hx1]
  have hbody : ((assignSrc c b1 i1 (.moveOf b2 i2) >>= fun _ => assignSrc c b2 i2 (.moveOf w.ntmp 0)) w2).sat
      (fun _ w4 => Touched w2 w4 (fun b i => (b, i) = (w.ntmp, 0) ∨ (b, i) = (b1, i1) ∨ (b, i) = (b2, i2)) ∧
          (w4.mem b1)[i1]? = some (.obj v2) ∧ (w4.mem b2)[i2]? = some (.obj v1))
      (fun e w4 => e = .elem ∧ Touched w2 w4 (fun b i => (b, i) = (w.ntmp, 0) ∨ (b, i) = (b1, i1) ∨ (b, i) = (b2, i2))) := by
    refine sat_bind (assignSrc_sat c b1 i1 (.moveOf b2 i2) w2 u1 hu1 (live hy2) (fun e => hne (by injection e with e; exact e.symm)))
      (fun _ w3 hw3 => ?_) (fun e w3 ⟨he, hq⟩ => ⟨he.1, Touched.of_quiet _ hq⟩)
    have ht23 := hw3.touched.mono (Q := fun b i => (b, i) = (w.ntmp, 0) ∨ (b, i) = (b1, i1) ∨ (b, i) = (b2, i2))
      (fun b i h => Or.inr (h.imp id (fun e => by injection e with e; exact e.symm)))
    have hx3 : (w3.mem b1)[i1]? = some (.obj v2) := by rw [hw3.dst, srcVal_moveOf w2 b2 i2 v2 hy2]
    have htv3 : (w3.mem w.ntmp)[0]? = some (.obj v1) :=
      (hw3.rest w.ntmp 0 (Ne.symm hxt) (fun e => hyt (by injection e with e))).trans htv2
    obtain ⟨u2, hu2⟩ := ht23.isObj ⟨v2, hy2⟩
    refine Res.sat_mono (assignSrc_sat c b2 i2 (.moveOf w.ntmp 0) w3 u2 hu2 (live htv3) (fun e => hyt (by injection e with e; exact e.symm)))
      (fun _ w4 hw4 => ⟨ht23.trans (hw4.touched.mono (fun b i h => ?_)), ?_, ?_⟩)
      (fun e w4 ⟨he, hq⟩ => ⟨he.1, ht23.trans (Touched.of_quiet _ hq)⟩)
    · exact h.elim (fun e => Or.inr (Or.inr e)) (fun e => Or.inl (by injection e with e; exact e.symm))
    · exact (hw4.rest b1 i1 hne (fun e => hxt (by injection e with e; exact e.symm))).trans hx3
    · rw [hw4.dst, srcVal_moveOf w3 w.ntmp 0 v1 htv3]
  have fin : ∀ (w4 : World α), Touched w2 w4 (fun b i => (b, i) = (w.ntmp, 0) ∨ (b, i) = (b1, i1) ∨ (b, i) = (b2, i2)) →
      (destroyAt c w.ntmp 0 w4).sat
        (fun _ w5 => SwapFrame w w5 (fun b i => (b, i) = (b1, i1) ∨ (b, i) = (b2, i2)) ∧
          (w5.mem b1)[i1]? = (w4.mem b1)[i1]? ∧ (w5.mem b2)[i2]? = (w4.mem b2)[i2]?) (fun _ _ => False) := by
    intro w4 ht
    have ht14 := ht12.trans ht
    refine Res.sat_mono (destroyAt_sat c w.ntmp 0 w4 (ht.isObj ⟨v1, htv2⟩)) (fun _ w5 ⟨hc5, _, hrest5⟩ => ?_) (fun _ _ h => h)
    exact ⟨frame_of w5 (ht14.ctl.trans hc5) (fun b i hn => (hrest5 b i (fun e => hn (Or.inl e))).trans (ht14.same b i hn)),
      hrest5 b1 i1 hxt, hrest5 b2 i2 hyt⟩
  refine sat_finally hbody
    (fun _ w4 ⟨ht, hx4, hy4⟩ => Res.sat_mono (fin w4 ht)
      (fun _ w5 ⟨hf, e1, e2⟩ => ⟨hf, e1.trans (hx4.trans hv2.symm), e2.trans (hy4.trans hv1.symm)⟩) (fun _ _ h => h))
    (fun e w4 ⟨he, ht⟩ => Res.sat_mono (fin w4 ht)
      (fun _ w5 ⟨hf, e1, e2⟩ => ⟨he, hf, isObj_of_eq e1 (ht.isObj ⟨u1, hu1⟩), isObj_of_eq e2 (ht.isObj ⟨v2, hy2⟩)⟩) (fun _ _ h => h))

theorem swapRanges_loop (c : Cfg) (b1 b2 : Nat) {E : Exc → World α → Prop} :
    ∀ (n : Nat) (I : Nat → World α → Prop) (a1 a2 : Nat) (w : World α), I 0 w →
    (∀ k, k < n → ∀ w1, I k w1 → (swapAt c b1 (a1 + k) b2 (a2 + k) w1).sat (fun _ w2 => I (k + 1) w2) E) →
    (swapRanges c b1 a1 b2 a2 n w).sat (fun _ w' => I n w') E
  | 0, _, _, _, _, h0, _ => h0
  | n+1, I, a1, a2, w, h0, hstep => by
    refine sat_bind (m := swapAt c b1 a1 b2 a2) (hstep 0 (Nat.zero_lt_succ n) w h0) (fun _ w1 h1 => ?_) (fun _ _ h => h)
    refine swapRanges_loop c b1 b2 n (fun k => I (k + 1)) (a1 + 1) (a2 + 1) w1 h1 (fun k hk w2 h2 => ?_)
    have := hstep (k + 1) (Nat.succ_lt_succ hk) w2 h2
    rwa [Nat.add_assoc a1, Nat.add_assoc a2, Nat.add_comm 1 k]

/-- `std::swap_ranges` over ranges of two DIFFERENT blocks -/
theorem swapRanges_sat (c : Cfg) (b1 b2 : Nat) (hb : b1 ≠ b2) (n a1 a2 : Nat) (w : World α)
    (hnt : w.ntmp % 2 = 0 ∧ 6 ≤ w.ntmp)
    (hc1 : b1 < w.ntmp ∨ b1 % 2 = 1) (hc2 : b2 < w.ntmp ∨ b2 % 2 = 1)
    (h1 : ∀ k, k < n → IsObj w b1 (a1 + k)) (h2 : ∀ k, k < n → IsObj w b2 (a2 + k)) :
    (swapRanges c b1 a1 b2 a2 n w).sat
      (fun _ w' => SwapFrame w w' (fun b i => (b = b1 ∧ a1 ≤ i ∧ i < a1 + n) ∨ (b = b2 ∧ a2 ≤ i ∧ i < a2 + n)) ∧
          (∀ k, k < n → (w'.mem b1)[a1 + k]? = (w.mem b2)[a2 + k]?) ∧ (∀ k, k < n → (w'.mem b2)[a2 + k]? = (w.mem b1)[a1 + k]?))
      (fun e w' => e = .elem ∧ SwapFrame w w' (fun b i => (b = b1 ∧ a1 ≤ i ∧ i < a1 + n) ∨ (b = b2 ∧ a2 ≤ i ∧ i < a2 + n)) ∧
          (∀ k, k < n → IsObj w' b1 (a1 + k)) ∧ (∀ k, k < n → IsObj w' b2 (a2 + k))) := by
  refine swapRanges_loop c b1 b2 n (fun k w' =>
      SwapFrame w w' (fun b i => (b = b1 ∧ a1 ≤ i ∧ i < a1 + k) ∨ (b = b2 ∧ a2 ≤ i ∧ i < a2 + k)) ∧
      (∀ j, j < k → (w'.mem b1)[a1 + j]? = (w.mem b2)[a2 + j]?) ∧ (∀ j, j < k → (w'.mem b2)[a2 + j]? = (w.mem b1)[a1 + j]?))
    a1 a2 w ⟨SwapFrame.refl w _, fun j h => absurd h (Nat.not_lt_zero j), fun j h => absurd h (Nat.not_lt_zero j)⟩
    (fun k hk w1 ⟨hf, hx, hy⟩ => ?_)
  have keep1 : ∀ j, k ≤ j → (w1.mem b1)[a1 + j]? = (w.mem b1)[a1 + j]? := fun j hj =>
    hf.rest b1 _ hc1 (fun h => h.elim (fun ⟨_, _, h⟩ => Nat.not_lt_of_le (Nat.add_le_add_left hj _) h) (fun ⟨h, _, _⟩ => hb h))
  have keep2 : ∀ j, k ≤ j → (w1.mem b2)[a2 + j]? = (w.mem b2)[a2 + j]? := fun j hj =>
    hf.rest b2 _ hc2 (fun h => h.elim (fun ⟨h, _, _⟩ => hb h.symm) (fun ⟨_, _, h⟩ => Nat.not_lt_of_le (Nat.add_le_add_left hj _) h))
  have hS : ∀ m, k < m → ∀ b i, ((b, i) = (b1, a1 + k) ∨ (b, i) = (b2, a2 + k)) →
      (b = b1 ∧ a1 ≤ i ∧ i < a1 + m) ∨ (b = b2 ∧ a2 ≤ i ∧ i < a2 + m) := by
    intro m hm b i h
    rcases h with h | h <;> cases h
    · exact Or.inl ⟨rfl, Nat.le_add_right _ _, Nat.add_lt_add_left hm _⟩
    · exact Or.inr ⟨rfl, Nat.le_add_right _ _, Nat.add_lt_add_left hm _⟩
  have hS' : ∀ m, k ≤ m → ∀ b i, ((b = b1 ∧ a1 ≤ i ∧ i < a1 + k) ∨ (b = b2 ∧ a2 ≤ i ∧ i < a2 + k)) →
      (b = b1 ∧ a1 ≤ i ∧ i < a1 + m) ∨ (b = b2 ∧ a2 ≤ i ∧ i < a2 + m) :=
    fun m hm b i h => h.imp (fun ⟨e, x, y⟩ => ⟨e, x, Nat.lt_of_lt_of_le y (Nat.add_le_add_left hm _)⟩)
      (fun ⟨e, x, y⟩ => ⟨e, x, Nat.lt_of_lt_of_le y (Nat.add_le_add_left hm _)⟩)
  have off1 : ∀ (w2 : World α), SwapFrame w1 w2 (fun b i => (b, i) = (b1, a1 + k) ∨ (b, i) = (b2, a2 + k)) → ∀ j, j ≠ k →
      (w2.mem b1)[a1 + j]? = (w1.mem b1)[a1 + j]? := fun w2 hf2 j hjk =>
    hf2.rest b1 _ (hf.cls hc1) (fun h => h.elim (fun e => by injection e with _ e; exact hjk (Nat.add_left_cancel e))
      (fun e => by injection e with e _; exact hb e))
  have off2 : ∀ (w2 : World α), SwapFrame w1 w2 (fun b i => (b, i) = (b1, a1 + k) ∨ (b, i) = (b2, a2 + k)) → ∀ j, j ≠ k →
      (w2.mem b2)[a2 + j]? = (w1.mem b2)[a2 + j]? := fun w2 hf2 j hjk =>
    hf2.rest b2 _ (hf.cls hc2) (fun h => h.elim (fun e => by injection e with e _; exact hb e.symm)
      (fun e => by injection e with _ e; exact hjk (Nat.add_left_cancel e)))
  refine Res.sat_mono (swapAt_sat c b1 (a1 + k) b2 (a2 + k) w1 (hf.ntmp_ok hnt) (hf.cls hc1) (hf.cls hc2)
      (fun h => by injection h with h _; exact hb h) (isObj_of_eq (keep1 k (Nat.le_refl k)) (h1 k hk))
      (isObj_of_eq (keep2 k (Nat.le_refl k)) (h2 k hk)))
    (fun _ w2 ⟨hf2, hx2, hy2⟩ => ⟨(hf.mono (hS' _ (Nat.le_succ k))).trans (hf2.mono (hS _ (Nat.lt_succ_self k))), fun j hj => ?_, fun j hj => ?_⟩)
    (fun e w2 ⟨he, hf2, ho1, ho2⟩ => ⟨he, (hf.mono (hS' n (Nat.le_of_lt hk))).trans (hf2.mono (hS n hk)), fun j hj => ?_, fun j hj => ?_⟩)
  · rcases Nat.lt_succ_iff_lt_or_eq.mp hj with hlt | rfl
    · have hjk := Nat.ne_of_lt hlt
      rw [off1 w2 hf2 j hjk]
      exact hx j hlt
    · exact hx2.trans (keep2 j (Nat.le_refl j))
  · rcases Nat.lt_succ_iff_lt_or_eq.mp hj with hlt | rfl
    · have hjk := Nat.ne_of_lt hlt
      rw [off2 w2 hf2 j hjk]
      exact hy j hlt
    · exact hy2.trans (keep1 j (Nat.le_refl j))
  · by_cases hjk : j = k
    · subst hjk; exact ho1
    · refine isObj_of_eq (off1 w2 hf2 j hjk) ?_
      by_cases hlt : j < k
      · exact isObj_of_eq (hx j hlt) (h2 j hj)
      · exact isObj_of_eq (keep1 j (Nat.le_of_not_lt hlt)) (h1 j hj)
  · by_cases hjk : j = k
    · subst hjk; exact ho2
    · refine isObj_of_eq (off2 w2 hf2 j hjk) ?_
      by_cases hlt : j < k
      · exact isObj_of_eq (hy j hlt) (h1 j hj)
      · exact isObj_of_eq (keep2 j (Nat.le_of_not_lt hlt)) (h2 j hj)

end SvModel
