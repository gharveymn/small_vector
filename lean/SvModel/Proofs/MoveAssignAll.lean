/-
Move assignment, every path, inside a system of containers.

The paths of `move_assign` (`move_assign_default` for its three inline-capacity relations, `move_assign_unequal_no_propagate`):
  * steal the source's buffer                                   — C09.moveAssignDefault_steals, C09.stealAssign_sys
  * element-wise into the destination's current buffer          — SysAll.moveAssignInPlace
  * element-wise into a freshly allocated buffer                — moveAssignRealloc_sat
  * element-wise into the in-object buffer of a heap destination — moveAssignToInline_sat
  * both inline capacities 0, source empty and unallocated       — SysAll.moveAssignNull
are combined into one statement about `moveAssign`.
-/
import SvModel.Proofs.MoveAssignSys
import SvModel.Proofs.MoveAssignRealloc
import SvModel.Proofs.MoveAssignToInline
import SvModel.Proofs.MoveCtorAll

namespace SvModel
open Gen
variable {α : Type}

def MovePost (cfg : Cfg) (w : World α) (U A : List Nat) (c o : Nat) (w' : World α) : Prop :=
  SysAll cfg w' U A ∧ (∀ xs, Holds w o xs → Holds w' c xs) ∧ (∃ ys, Holds w' o ys) ∧
    (∀ d ∈ A, d ≠ c → d ≠ o → ∀ xs, Holds w d xs → Holds w' d xs)

def MoveFail (cfg : Cfg) (w : World α) (U A : List Nat) (c o : Nat) (w' : World α) : Prop :=
  SysAll cfg w' U A ∧ (∃ zs, Holds w' c zs) ∧ (∃ ys, Holds w' o ys) ∧
    (∀ d ∈ A, d ≠ c → d ≠ o → ∀ xs, Holds w d xs → Holds w' d xs)

theorem MovePost.of_two {cfg : Cfg} {w wh w' : World α} {U A : List Nat} {c o : Nat} (hs : SysAll cfg w U A) (hc : c ∈ A) (ho : o ∈ A)
    (hb1 : Basic cfg w wh o) (hb2 : Basic cfg wh w' c) {D : Nat}
    (hdata : (w'.hdr c).data = D) (hsize : (w'.hdr c).size = (w.hdr o).size)
    (hval : ∀ k, k < (w.hdr o).size → (w'.mem D)[k]? = (w.mem (w.hdr o).data)[k]?) : MovePost cfg w U A c o w' := by
  obtain ⟨a, _, b, d⟩ := hs.two_steps hc ho hb1 hb2
  refine ⟨a, ?_, b, d⟩
  intro xs hx
  refine ⟨by rw [hsize]; exact hx.1, fun i hi' => ?_⟩
  rw [hdata, hval i (by rw [← hx.1]; exact hi')]; exact hx.2 i hi'

theorem SysAll.moveAssignInPlace_post {cfg : Cfg} {w : World α} {U A : List Nat} {c o : Nat} (hs : SysAll cfg w U A)
    (hc : c ∈ A) (ho : o ∈ A) (hoc : o ≠ c) (hfit : (w.hdr o).size ≤ (w.hdr c).cap) (a' : Nat)
    (hok : (w.hdr c).data = (w.hdr c).inl ∨ a' = (w.hdr c).alloc) :
    ((SvModel.moveAssignInPlace cfg c (w.hdr c) (w.hdr o) (decide ((w.hdr c).size < (w.hdr o).size)) >>= fun _ =>
        setSize c (w.hdr o).size >>= fun _ => SvModel.setAlloc c a') w).sat
      (fun _ w' => MovePost cfg w U A c o w') (fun _ w' => MoveFail cfg w U A c o w') :=
  Res.sat_mono (SysAll.moveAssignInPlace hs hc ho hoc hfit a' hok)
    (fun _ _ ⟨a, b, c', _, _, _, _, _, f⟩ => ⟨a, b, c', f⟩) (fun _ _ ⟨a, b, c', _, f⟩ => ⟨a, c', b, f⟩)

theorem SysAll.moveAssignRealloc {cfg : Cfg} {w : World α} {U A : List Nat} {c o : Nat} (hs : SysAll cfg w U A)
    (hc : c ∈ A) (ho : o ∈ A)
    (hd : (w.hdr o).data ≠ (w.hdr c).data) (hi : (w.hdr o).data ≠ (w.hdr c).inl) (Al ncap : Nat)
    (hN : (w.hdr c).N < ncap) (hmax : ncap ≤ cfg.maxSize) (hfit : (w.hdr o).size ≤ ncap) :
    ((allocate cfg Al ncap >>= fun nb =>
      tryCatch (uninitializedMove cfg false (w.hdr o).data 0 (w.hdr o).size nb 0)
        (fun ex => deallocate Al nb ncap >>= fun _ => throwE ex) >>= fun _ =>
      resetData cfg c nb ncap (w.hdr o).size >>= fun _ => SvModel.setAlloc c Al) w).sat
      (fun _ w' => MovePost cfg w U A c o w') (fun _ w' => MoveFail cfg w U A c o w') := by
  have hvc := hs.ok.vec c hc
  have hl := hs.ok.led
  refine Res.sat_mono (moveAssignRealloc_sat cfg c o w Al ncap hvc hl (hs.ok.vec o ho) hN hmax hfit hd hi) ?_ ?_
  · intro _ w' ⟨wh, hb1, hb2, hhc, hval⟩
    exact MovePost.of_two hs hc ho hb1 hb2 (by rw [hhc]) (by rw [hhc]) hval
  · intro e w' h
    rcases h with ⟨_, hq⟩ | ⟨_, wh, hb1, hst⟩
    · have hb := (Strong.of_quiet hl hq).basic hl hvc
      have hs1 := hs.step hc hb
      exact ⟨hs1, (hs1.ok.vec c hc).holds_exists, (hs1.ok.vec o ho).holds_exists,
             fun d hd' hdc _ xs hx => hs.ok.holds_other hc hb hd' hdc hx⟩
    · have hvh : VecOK cfg wh c := (hs.step ho hb1).ok.vec c hc
      exact hs.two_steps hc ho hb1 (hst.basic hb1.led hvh)

/-- both inline capacities 0 and the source empty and unallocated: "stealing" the null buffer is destroying the
    destination and constructing it again empty -/
theorem SysAll.moveAssignNull {cfg : Cfg} {w : World α} {U A : List Nat} {c o : Nat} (hs : SysAll cfg w U A)
    (hc : c ∈ A) (ho : o ∈ A) (hne : c ≠ o) (hcN : (w.hdr c).N = 0) (hoN : (w.hdr o).N = 0) (hocap : (w.hdr o).cap = 0)
    (hnull : (w.hdr c).inl = (w.hdr o).inl) (a' : Nat) :
    ∃ w', (moveAllocationPointer cfg c o >>= fun _ => SvModel.setAlloc c a') w = .ok () w' ∧ MovePost cfg w U A c o w' := by
  have hoc : o ≠ c := fun e => hne e.symm
  have hvo := hs.ok.vec o ho
  have hosz : (w.hdr o).size = 0 := by have := hvo.size_le; omega
  have hod : (w.hdr o).data = (w.hdr o).inl := (hvo.inl_iff).mp (by rw [hocap, hoN])
  obtain ⟨_, w1, hr, hs1, hh1, hmem1⟩ := Res.ok_of_sat (SysAll.dtor hs hc)
  have hfin : ((setData c (w.hdr o).data (w.hdr o).cap (w.hdr o).size >>= fun _ => setDefault o) >>= fun _ => SvModel.setAlloc c a') w1 =
      SvModel.ctorFill cfg c a' false ([] : List (Src α)) w1 := by
    rw [← hh1] at hcN hoN hocap hosz hod hnull
    rw [ctorFill_nil_run, ← adoptW_null w1 hne a' hcN hoN hocap hosz hod hnull]
    exact C09.stealAssign_tail c o a' hne w w1 hh1
  rw [bind_run, C09.moveAllocationPointer_run, bind_run, show wipe cfg c w = .ok () w1 from hr]
  simp only []
  rw [bind_run] at hfin
  rw [hfin]
  have hfill := SysAll.ctorEmpty hs1 (hs.sub c hc) (fun hm => (mem_filter_ne.mp hm).2 rfl) a' false
  rw [ctorFill_nil_run] at hfill ⊢
  obtain ⟨hsf, hcf, _, hof⟩ := hfill
  have keep : ∀ d ∈ A, d ≠ c → ∀ xs, Holds w d xs → Holds _ d xs := fun d hd' hdc xs hx => by
    obtain ⟨h1, h2⟩ := hof d (mem_filter_ne.mpr ⟨hd', hdc⟩)
    have e : w1.hdr d = w.hdr d := by rw [hh1]
    rw [e] at h1 h2
    exact hx.of_mem_eq h1 (h2.trans (hmem1 d hd' hdc))
  refine ⟨_, rfl, hsf.congr (fun x => (mem_cons_filter_ne_of_mem hc).symm), fun xs hx => ?_, ⟨[], keep o ho hoc [] (Holds.nil hosz)⟩,
    fun d hd' hdc _ => keep d hd' hdc⟩
  rw [hx.eq_nil hosz]; exact hcf

/-- `move_assign_default` (allocators interchangeable; `hfinal`: the destination ends up with the allocator that owns
    whatever block it ends up with) -/
theorem SysAll.moveAssignDefault {cfg : Cfg} {w : World α} {U A : List Nat} {c o : Nat} (hs : SysAll cfg w U A)
    (hc : c ∈ A) (ho : o ∈ A) (hne : c ≠ o)
    (hnull : (w.hdr c).N = 0 → (w.hdr o).N = 0 → (w.hdr c).inl = (w.hdr o).inl)
    (hfinal : maybeMove cfg.policy (w.hdr c).alloc (w.hdr o).alloc = (w.hdr o).alloc) :
    (SvModel.moveAssignDefault cfg c o w).sat (fun _ w' => MovePost cfg w U A c o w') (fun _ w' => MoveFail cfg w U A c o w') := by
  have hoc : o ≠ c := fun e => hne e.symm
  have hvc := hs.ok.vec c hc
  have hvo := hs.ok.vec o ho
  have hl := hs.ok.led
  have hNc := hs.ok.nmax c hc
  have hNo := hs.ok.nmax o ho
  have hocapmax : (w.hdr o).cap ≤ cfg.maxSize := hvo.cap_le_max hNo
  have hccapmax : (w.hdr c).cap ≤ cfg.maxSize := hvc.cap_le_max hNc
  have hosz := hvo.size_le
  by_cases hst : C09.StealAllowed (w.hdr c) (w.hdr o)
  ·
    rw [C09.moveAssignDefault_steals cfg c o w hst]
    obtain ⟨w', hrun, hs', hco, hoe, _, hoth⟩ := C09.stealAssign_sys cfg w U A c o hs hc ho hne hst hfinal
    rw [hrun]
    refine ⟨hs', hco, ⟨[], hoe⟩, fun d hd hdc hdo xs hx => ?_⟩
    exact hx.of_mem_eq (hoth d hd hdo hdc).1 (hoth d hd hdo hdc).2
  have hdec := steal_trichotomy (w.hdr c) (w.hdr o) hvo.cap_ge
  unfold SvModel.moveAssignDefault
  rw [getV_bind, getV_bind, hfinal]
  rcases hdec with h | hns | ⟨hcN, hoN, hocap⟩
  · exact absurd h hst
  ·
    obtain ⟨hnz, hns1, hns2⟩ := hns
    obtain ⟨hd, hi⟩ := hs.ok.buffers_apart hc ho hoc (Or.inr hnz)
    rw [if_neg hnz]
    by_cases hle : (w.hdr o).N ≤ (w.hdr c).N
    · rw [if_pos hle]
      have hnb := hns1 hle
      rw [guard_moveAssignDefault1_0_eq, guard_moveAssignDefault1_1_eq, guard_moveAssignDefault1_2_eq,
        if_neg (fun h => hnb (of_decide_eq_true h))]
      have hfitN : (w.hdr o).size ≤ (w.hdr c).N := by omega
      by_cases hch : (w.hdr c).N < (w.hdr c).cap
      · rw [if_pos (decide_eq_true hch)]
        rw [bind_assoc_run]
        refine Res.sat_mono (moveAssignToInline_sat cfg c o w (w.hdr o).alloc hvc hl hvo hch hfitN hd hi) ?_ ?_
        · intro _ w' ⟨wh, hb1, hb2, hhc, hval⟩
          exact MovePost.of_two hs hc ho hb1 hb2 (by rw [hhc]) (by rw [hhc]) hval
        · intro e w' ⟨_, wh, hb1, hst⟩
          exact hs.two_steps hc ho hb1 (hst.basic hb1.led ((hs.step ho hb1).ok.vec c hc))
      · rw [if_neg (fun h => hch (of_decide_eq_true h))]
        have hcin : (w.hdr c).data = (w.hdr c).inl := (hvc.inl_iff).mp (by have := hvc.cap_ge; omega)
        rw [bind_assoc_run]
        exact SysAll.moveAssignInPlace_post hs hc ho hoc (by have := hvc.cap_ge; omega) (w.hdr o).alloc (Or.inl hcin)
    · rw [if_neg hle]
      have hlt : (w.hdr c).N < (w.hdr o).N := by omega
      have hnb := hns2 hlt
      rw [guard_moveAssignDefault2_0_eq, guard_moveAssignDefault2_1_eq, guard_moveAssignDefault2_2_eq,
        if_neg (fun h => hnb (of_decide_eq_true h))]
      by_cases hre : (decide ((w.hdr c).cap < (w.hdr o).size) || (decide ((w.hdr c).N < (w.hdr c).cap) && !((w.hdr o).alloc == (w.hdr c).alloc))) = true
      · rw [if_pos hre]
        simp only [M_bind_assoc]
        generalize hncap : (if (w.hdr c).cap < (w.hdr o).size then newCapacity cfg.maxSize (w.hdr c).cap (w.hdr o).size else (w.hdr c).cap) = ncap
        have hbounds : (w.hdr c).N < ncap ∧ ncap ≤ cfg.maxSize ∧ (w.hdr o).size ≤ ncap := by
          by_cases hgrow : (w.hdr c).cap < (w.hdr o).size
          · rw [if_pos hgrow] at hncap
            obtain ⟨h1, h2⟩ := newCapacity_bounds cfg.maxSize (w.hdr c).cap (w.hdr o).size hgrow (by omega)
            rw [hncap] at h1 h2
            have := hvc.cap_ge
            exact ⟨by omega, h2, h1⟩
          · rw [if_neg hgrow] at hncap
            have hheap : (w.hdr c).N < (w.hdr c).cap := by
              simp only [Bool.or_eq_true, Bool.and_eq_true, decide_eq_true_eq] at hre
              rcases hre with h | ⟨h, _⟩
              · exact absurd h hgrow
              · exact h
            rw [← hncap]; exact ⟨hheap, hccapmax, by omega⟩
        exact SysAll.moveAssignRealloc hs hc ho hd hi (w.hdr o).alloc ncap hbounds.1 hbounds.2.1 hbounds.2.2
      · rw [if_neg hre]
        rw [bind_assoc_run]
        have hre' : ¬ (w.hdr c).cap < (w.hdr o).size ∧ ((w.hdr c).N < (w.hdr c).cap → (w.hdr o).alloc = (w.hdr c).alloc) := by
          simp only [Bool.or_eq_true, Bool.and_eq_true, decide_eq_true_eq, not_or, not_and, Bool.not_eq_true'] at hre
          exact ⟨hre.1, fun h => by simpa using hre.2 h⟩
        have hok : (w.hdr c).data = (w.hdr c).inl ∨ (w.hdr o).alloc = (w.hdr c).alloc := by
          by_cases hch : (w.hdr c).N < (w.hdr c).cap
          · exact Or.inr (hre'.2 hch)
          · exact Or.inl ((hvc.inl_iff).mp (by have := hvc.cap_ge; omega))
        exact SysAll.moveAssignInPlace_post hs hc ho hoc (by omega) (w.hdr o).alloc hok
  ·
    rw [if_pos ⟨hcN, hoN⟩]
    obtain ⟨w', hrun, hp⟩ := SysAll.moveAssignNull hs hc ho hne hcN hoN hocap (hnull hcN hoN) (w.hdr o).alloc
    rw [hrun]; exact hp

/-- `move_assign_unequal_no_propagate`: the allocator does not propagate, so the destination keeps its own allocator
    and the elements are always moved one by one -/
theorem SysAll.moveAssignUnequalNoPropagate {cfg : Cfg} {w : World α} {U A : List Nat} {c o : Nat} (hs : SysAll cfg w U A)
    (hc : c ∈ A) (ho : o ∈ A) (hne : c ≠ o) (hp : cfg.policy.pocma = false) :
    (SvModel.moveAssignUnequalNoPropagate cfg c o w).sat (fun _ w' => MovePost cfg w U A c o w') (fun _ w' => MoveFail cfg w U A c o w') := by
  have hoc : o ≠ c := fun e => hne e.symm
  have hvc := hs.ok.vec c hc
  have hvo := hs.ok.vec o ho
  have hNc := hs.ok.nmax c hc
  have hNo := hs.ok.nmax o ho
  have hocapmax : (w.hdr o).cap ≤ cfg.maxSize := hvo.cap_le_max hNo
  have hosz := hvo.size_le
  have hmm : maybeMove cfg.policy (w.hdr c).alloc (w.hdr o).alloc = (w.hdr c).alloc := by unfold maybeMove; simp [hp]
  unfold SvModel.moveAssignUnequalNoPropagate
  rw [getV_bind, getV_bind, hmm]
  rw [guard_moveAssignUnequalNoPropagate_0_eq, guard_moveAssignUnequalNoPropagate_1_eq]
  by_cases hgrow : (w.hdr c).cap < (w.hdr o).size
  · rw [if_pos (decide_eq_true hgrow)]
    simp only [M_bind_assoc]
    obtain ⟨hd, hi⟩ := hs.ok.apart hc ho hoc (by omega)
    obtain ⟨h1, h2⟩ := newCapacity_bounds cfg.maxSize (w.hdr c).cap (w.hdr o).size hgrow (by omega)
    have := hvc.cap_ge
    exact SysAll.moveAssignRealloc hs hc ho hd hi (w.hdr c).alloc _ (by omega) h2 h1
  · rw [if_neg (fun h => hgrow (of_decide_eq_true h))]
    rw [bind_assoc_run]
    exact SysAll.moveAssignInPlace_post hs hc ho hoc (by omega) (w.hdr c).alloc (Or.inr rfl)

theorem pocma_false_of_not_movable {p : PolicyEnv} (h : ¬ allocationsAreMovable p = true) : p.pocma = false := by
  unfold allocationsAreMovable at h
  cases hp : p.pocma
  · rfl
  · rw [hp] at h; simp at h

/-- MOVE ASSIGNMENT `c = std::move (o)` in a system, every path.  `hal`: allocators that the traits declare
    interchangeable without propagation really are equal (std::allocator, is_always_equal). -/
theorem SysAll.moveAssign {cfg : Cfg} {w : World α} {U A : List Nat} {c o : Nat} (hs : SysAll cfg w U A)
    (hc : c ∈ A) (ho : o ∈ A) (hne : c ≠ o)
    (hnull : (w.hdr c).N = 0 → (w.hdr o).N = 0 → (w.hdr c).inl = (w.hdr o).inl)
    (hal : allocationsAreMovable cfg.policy = true → cfg.policy.pocma = true ∨ (w.hdr c).alloc = (w.hdr o).alloc) :
    (SvModel.moveAssign cfg c o w).sat (fun _ w' => MovePost cfg w U A c o w') (fun _ w' => MoveFail cfg w U A c o w') := by
  unfold SvModel.moveAssign
  by_cases hm : allocationsAreMovable cfg.policy = true
  · rw [if_pos hm]
    refine SysAll.moveAssignDefault hs hc ho hne hnull ?_
    unfold maybeMove
    rcases hal hm with h | h
    · simp [h]
    · by_cases hp : cfg.policy.pocma = true <;> simp [hp, h]
  · rw [if_neg hm, getV_bind, getV_bind]
    have hp : cfg.policy.pocma = false := pocma_false_of_not_movable hm
    rw [guard_moveAssign1_0_eq]
    by_cases heq : (w.hdr o).alloc = (w.hdr c).alloc
    · rw [if_pos (by simpa using heq)]
      refine SysAll.moveAssignDefault hs hc ho hne hnull ?_
      unfold maybeMove; simp [hp, heq]
    · rw [if_neg (by simpa using heq)]
      exact SysAll.moveAssignUnequalNoPropagate hs hc ho hne hp

end SvModel
