/-
C10 / C14: "a growing call that knows its element count up front moves the contents to a new buffer at most once".

Like the iterator protocol (Trace.lean) this is a property of the event trace alone, so it is proved for EVERY world and
every fault list, with no invariant: `AB k m` — the computation `m` adds at most `k` allocation events to the trace,
whether it returns or throws.  `Adds.ab` turns a count of the structural pass of Proofs/Effect.lean, taken at
`Counts.isAlloc`, into an `AB` bound: that is how every bound is obtained, here for the primitives and `shrink_to_fit`,
in Properties/C10Allocs.lean for the growing families (`(Counts.isAlloc.<function> …).ab`).  The `AB.*` lemmas state for
their own sake that `AB` is closed under the monad combinators and what each primitive adds (`allocate` alone adds one).
-/
import SvModel.Ops
import SvModel.Proofs.Effect

namespace SvModel
open Gen
variable {α β γ : Type}

def Ev.isAlloc : Ev → Bool
  | .alloc _ _ _ => true
  | _ => false

def nAlloc (t : List Ev) : Nat := t.countP Ev.isAlloc

theorem nAlloc_append (a b : List Ev) : nAlloc (a ++ b) = nAlloc a + nAlloc b := by simp [nAlloc, List.countP_append]
theorem nAlloc_snoc (t : List Ev) (e : Ev) (h : e.isAlloc = false) : nAlloc (t ++ [e]) = nAlloc t := by
  rw [nAlloc_append]; simp [nAlloc, h]
theorem nAlloc_snoc_alloc (t : List Ev) (b n a : Nat) : nAlloc (t ++ [.alloc b n a]) = nAlloc t + 1 := by
  rw [nAlloc_append]; simp [nAlloc, List.countP_cons, Ev.isAlloc]

def AB (k : Nat) (m : M α β) : Prop := ∀ w, nAlloc (m w).world.trace ≤ nAlloc w.trace + k

theorem AB.graded : Graded (fun k (w w' : World α) => nAlloc w'.trace ≤ nAlloc w.trace + k) :=
  ⟨fun _ => Nat.le_refl _, fun h1 h2 => by omega, fun h hk => by omega⟩

theorem AB.mono {k k' : Nat} {m : M α β} (h : AB k m) (hk : k ≤ k') : AB k' m := Rel.mono AB.graded h hk
theorem AB.pure (b : β) : AB 0 (pure b : M α β) := Rel.pure AB.graded b
theorem AB.throwE (e : Exc) : AB 0 (throwE e : M α β) := Rel.throwE AB.graded e

theorem AB.bind {m : M α β} {f : β → M α γ} {k1 k2 : Nat} (h1 : AB k1 m) (h2 : ∀ b, AB k2 (f b)) : AB (k1 + k2) (m >>= f) :=
  Rel.bind AB.graded h1 h2

theorem AB.tryCatch {m : M α β} {h : Exc → M α β} {k1 k2 : Nat} (h1 : AB k1 m) (h2 : ∀ e, AB k2 (h e)) : AB (k1 + k2) (tryCatch m h) :=
  Rel.tryCatch AB.graded h1 h2

theorem AB.finally {m : M α β} {fin : M α Unit} {k : Nat} (h1 : AB k m) (h2 : AB 0 fin) : AB k (finally_ m fin) :=
  Rel.finally AB.graded h1 h2

theorem AB.ite {c : Prop} [Decidable c] {m n : M α β} {k : Nat} (h1 : AB k m) (h2 : AB k n) : AB k (if c then m else n) := by
  split <;> assumption

theorem Counts.isAlloc : Counts Ev.isAlloc 1 where
  storage e h := by cases e <;> first | rfl | cases h
  alloc _ _ _ := Nat.le_refl _

theorem Adds.ab {k : Nat} {m : M α β} (h : Adds Ev.isAlloc k m) : AB k m := fun w => by
  obtain ⟨_, es, ht, hc⟩ := h w
  rw [ht, nAlloc_append]
  exact Nat.add_le_add_left hc _

theorem AB.allocate (c : Cfg) (a n : Nat) : AB 1 (allocate c a n : M α Nat) := (Counts.isAlloc.allocate c a n).ab
theorem AB.deallocate (a b n : Nat) : AB 0 (deallocate a b n : M α Unit) := (Counts.isAlloc.deallocate a b n).ab
theorem AB.destroyAt (c : Cfg) (b i : Nat) : AB 0 (destroyAt c b i : M α Unit) := (Counts.isAlloc.destroyAt c b i).ab
theorem AB.destroyRange (c : Cfg) (b : Nat) : ∀ (n first : Nat), AB 0 (destroyRange c b first n : M α Unit) :=
  fun n first => (Counts.isAlloc.destroyRange c b n first).ab
theorem AB.resetData (cfg : Cfg) (c nb ncap n : Nat) : AB 0 (resetData cfg c nb ncap n : M α Unit) :=
  (Counts.isAlloc.resetData cfg c nb ncap n).ab
theorem AB.eraseRange (cfg : Cfg) (c f l : Nat) : AB 0 (eraseRange cfg c f l : M α Nat) := (Counts.isAlloc.eraseRange cfg c f l).ab
theorem AB.allocateBy (cfg : Cfg) (ch : Bool) (a n : Nat) : AB 1 (allocateBy cfg ch a n : M α Nat) :=
  (Counts.isAlloc.allocateBy cfg ch a n).ab
theorem AB.calcNewCapacity (cfg : Cfg) (ch : Bool) (v : Vec) (req : Nat) : AB 0 (calcNewCapacity cfg ch v req : M α Nat) :=
  (Counts.calcNewCapacity cfg ch v req).ab
theorem AB.shrinkToSize (cfg : Cfg) (c : Nat) : AB 1 (shrinkToSize cfg c : M α Unit) := (Counts.isAlloc.shrinkToSize cfg c).ab

end SvModel
