/-
insert (pos, n, x) = insert_copies and insert (pos, first, last) over a multi-pass range = insert_range (forward
iterators) / insert_range_helper, assembled from the reallocating kernel (Insert.lean), the two in-place kernels
(InPlace.lean, InPlaceLarge.lean) and the append family for the end position.
-/
import SvModel.Proofs.InPlaceLarge
import SvModel.Proofs.InsertOps
import SvModel.Proofs.Assign

namespace SvModel
open Gen
variable {α : Type}

theorem take_nil_drop {β : Type} (xs : List β) (p : Nat) : xs.take p ++ [] ++ xs.drop p = xs := by simp

/-- inserting one element at the end position is `append_element` -/
theorem appendElement_ins (cfg : Cfg) (c : Nat) (s : Src α) (w : World α)
    (hv : VecOK cfg w c) (hl : Ledger w) (hNmax : (w.hdr c).N ≤ cfg.maxSize)
    (ha : ArgOK cfg w c s) (hstrong : movesFor cfg true = true → cfg.tMove = false) :
    (appendElement cfg c s w).sat
      (fun r w' => r = (w.hdr c).size ∧ Inserted cfg w w' c (w.hdr c).size [srcVal w s] ∧
          ((w.hdr c).size < (w.hdr c).cap → InsKept w w' c))
      (fun _ w' => InsBasic cfg w w' c) :=
  Res.sat_mono (appendElement_sat cfg c s w hv hl hNmax ha hstrong) (fun _ _ ⟨hr, hp⟩ => ⟨hr, hp.inserted rfl, hp.kept⟩)
    (fun _ _ hs => hs.insBasic hl hv)

/-- the reallocating branch as the multi-element inserts see it: the size guard against `max_size`, then `insertRealloc`;
    no spare capacity, so the in-place clause is void -/
theorem insertRealloc_ins (cfg : Cfg) (c pos : Nat) (srcs : List (Src α)) (w : World α)
    (hv : VecOK cfg w c) (hl : Ledger w) (hNmax : (w.hdr c).N ≤ cfg.maxSize) (hpos : pos ≤ (w.hdr c).size)
    (hgrow : (w.hdr c).cap - (w.hdr c).size < srcs.length) (ha : ArgsOK cfg w c srcs) :
    ((if decide (cfg.maxSize - (w.hdr c).size < srcs.length) = true then throwE .length else insertRealloc cfg c pos srcs : M α Nat) w).sat
      (fun r w' => r = pos ∧ Inserted cfg w w' c pos (srcs.map (srcVal w)) ∧
          (srcs.length ≤ (w.hdr c).cap - (w.hdr c).size → InsKept w w' c))
      (fun _ w' => InsBasic cfg w w' c) := by
  have hcapmax := hv.cap_le_max hNmax
  have hsle := hv.size_le
  by_cases hmx : cfg.maxSize - (w.hdr c).size < srcs.length
  · rw [if_pos (decide_eq_true hmx)]
    exact (Strong.refl (w := w) hl).insBasic hl hv
  · rw [if_neg (by simpa using hmx)]
    exact Res.sat_mono (insertRealloc_sat cfg c pos srcs w hv hl hpos (by omega) (by omega) ha)
      (fun _ _ ⟨hr, hi, _, _⟩ => ⟨hr, hi, fun h => by omega⟩) (fun _ _ ⟨hb, hh, hlv⟩ => ⟨hb, by rw [hh], by rw [hh], hlv⟩)

theorem insertRangeHelper_sat (cfg : Cfg) (c pos : Nat) (srcs : List (Src α)) (w : World α)
    (hv : VecOK cfg w c) (hl : Ledger w) (hNmax : (w.hdr c).N ≤ cfg.maxSize)
    (hpos : pos < (w.hdr c).size) (hne : 0 < srcs.length) (hext : External srcs) :
    (insertRangeHelper cfg c pos srcs w).sat
      (fun r w' => r = pos ∧ Inserted cfg w w' c pos (srcs.map (srcVal w)) ∧
          (srcs.length ≤ (w.hdr c).cap - (w.hdr c).size → InsKept w w' c))
      (fun _ w' => InsBasic cfg w w' c) := by
  unfold insertRangeHelper
  rw [bind_run, getV_run]
  simp only []
  rw [guard_insertRangeHelper_0_eq, guard_insertRangeHelper_1_eq, guard_insertRangeHelper_2_eq]
  have hcapmax := hv.cap_le_max hNmax
  have hsle := hv.size_le
  by_cases hgrow : (w.hdr c).cap - (w.hdr c).size < srcs.length
  · rw [if_pos (decide_eq_true hgrow)]
    exact insertRealloc_ins cfg c pos srcs w hv hl hNmax (by omega) hgrow (hext.argsOK w c)
  rw [if_neg (by simpa using hgrow)]
  by_cases hlarge : (w.hdr c).size - pos < srcs.length
  · rw [if_pos (decide_eq_true hlarge)]
    have hhd := hext.sub (fun s hs => List.mem_of_mem_take (i := (w.hdr c).size - pos) hs)
    have htl := hext.sub (fun s hs => List.mem_of_mem_drop (i := (w.hdr c).size - pos) hs)
    have hrun := insertInPlaceLarge_sat cfg c pos (w := w) hv hl hpos
      (tailSrcs := srcs.drop ((w.hdr c).size - pos)) (withTmp := none)
      (hsOf := fun _ => srcs.take ((w.hdr c).size - pos)) (headVals := (srcs.take ((w.hdr c).size - pos)).map (srcVal w))
      (hroom := by simp; omega)
      (hta := htl.argsOK w c)
      (htmpsrc := fun s h => by cases h) (hlen := fun _ => by simp; omega) (hhl := by simp; omega)
      (hnm := fun _ => hhd.nonmoving)
      (hhead := fun _ wX _ => ⟨hhd.live wX, fun s hs b i hl' => (by rw [hhd s hs] at hl'; cases hl'),
        List.map_congr_left (fun s hs => hhd.srcVal w wX s hs)⟩)
    rw [← List.map_append, List.take_append_drop] at hrun
    exact sat_bind hrun (fun _ w' ⟨hi, hk⟩ => ⟨rfl, hi, fun _ => hk⟩) (fun _ _ h => h.1.insBasic)
  · rw [if_neg (by simpa using hlarge)]
    have hrun := insertInPlaceSmall_sat cfg c pos srcs (MidIns.start hv pos ((w.hdr c).size + srcs.length) (by omega)) rfl hne
      (by omega) (Nat.le_refl _) hext.nonmoving (hext.live w) (fun s hs b i hl' => by rw [hext s hs] at hl'; cases hl')
    refine sat_bind hrun (fun _ w' ⟨hm', hv', hs', _, _⟩ => ?_)
      (fun e w' ⟨n', hn', hm', _, _⟩ => (hm'.fail hv hl (by omega) (by omega) (by omega)).insBasic)
    obtain ⟨hi, hk⟩ := hm'.inserted (vals := srcs.map (srcVal w)) hv hl rfl rfl (by simp) rfl (by omega) (by omega)
      (fun j hj => by rw [hv' j (by simpa using hj)]; simp) hs'
    exact ⟨rfl, hi, fun _ => hk⟩

/-- insert (pos, first, last), multi-pass range of outside values, non-empty -/
theorem insertRangeFwd_sat (cfg : Cfg) (c pos : Nat) (srcs : List (Src α)) (w : World α)
    (hv : VecOK cfg w c) (hl : Ledger w) (hNmax : (w.hdr c).N ≤ cfg.maxSize)
    (hpos : pos ≤ (w.hdr c).size) (hne : 0 < srcs.length) (hext : External srcs)
    (hstrong : movesFor cfg true = true → cfg.tMove = false) :
    (insertRangeFwd cfg c pos srcs w).sat
      (fun r w' => r = pos ∧ Inserted cfg w w' c pos (srcs.map (srcVal w)) ∧
          (srcs.length ≤ (w.hdr c).cap - (w.hdr c).size → InsKept w w' c))
      (fun _ w' => InsBasic cfg w w' c) := by
  unfold insertRangeFwd
  rw [bind_run, getV_run]
  simp only []
  rw [guard_insertRange1_0_eq, guard_insertRange1_1_eq]
  have haa : ArgsOK cfg w c srcs := hext.argsOK w c
  by_cases hend : pos = (w.hdr c).size
  · have hg : (!decide (pos = (w.hdr c).size)) = false := by simp [hend]
    rw [hg]
    simp only [Bool.false_eq_true, if_false]
    by_cases hone : srcs.length = 1
    · rw [if_pos (decide_eq_true hone)]
      match srcs, hone, hext, haa with
      | [s], _, hext, haa =>
        have ha : ArgOK cfg w c s := ⟨haa.nonmoving s (by simp), haa.live s (by simp), haa.inside s (by simp)⟩
        subst hend
        exact Res.sat_mono (appendElement_ins cfg c s w hv hl hNmax ha hstrong)
          (fun _ _ ⟨hr, hi, hk⟩ => ⟨hr, hi, fun h => hk (by simp at h; omega)⟩) (fun _ _ h => h)
    · rw [if_neg (by simpa using hone)]
      refine Res.sat_mono (appendRangeFwd_sat cfg c false srcs w hv hl hNmax (haa.srcs hv hl) (fun h => by cases h)) ?_ ?_
      · intro r w' ⟨hr, hap⟩
        exact ⟨by rw [hr, hend], hap.inserted hend, fun h => hap.kept (by simp; omega)⟩
      · intro e w' hf
        exact hf.insBasic
  · have hg : (!decide (pos = (w.hdr c).size)) = true := by simp [hend]
    rw [hg]
    simp only [if_true]
    exact insertRangeHelper_sat cfg c pos srcs w hv hl hNmax (by omega) hne hext

/-- insert (pos, n, x): x may be an outside value or one of the container's own elements -/
theorem insertCopies_sat (cfg : Cfg) (c pos count : Nat) (s : Src α) (w : World α)
    (hv : VecOK cfg w c) (hl : Ledger w) (hNmax : (w.hdr c).N ≤ cfg.maxSize)
    (hpos : pos ≤ (w.hdr c).size) (ha : ArgOK cfg w c s)
    (hstrong : movesFor cfg true = true → cfg.tMove = false) :
    (insertCopies cfg c pos count s w).sat
      (fun r w' => r = pos ∧ Inserted cfg w w' c pos (List.replicate count (srcVal w s)) ∧
          (count ≤ (w.hdr c).cap - (w.hdr c).size → InsKept w w' c))
      (fun _ w' => InsBasic cfg w w' c) := by
  unfold insertCopies
  rw [bind_run, getV_run]
  simp only []
  rw [guard_insertCopies_0_eq, guard_insertCopies_1_eq, guard_insertCopies_2_eq, guard_insertCopies_3_eq, guard_insertCopies_4_eq,
    guard_insertCopies_5_eq]
  have hsle := hv.size_le
  have hcapmax := hv.cap_le_max hNmax
  by_cases hz : 0 = count
  · rw [if_pos (decide_eq_true hz)]
    show pos = pos ∧ _
    subst hz
    refine ⟨rfl, ⟨(Strong.refl (w := w) hl).basic hl hv, fun xs hx => by simpa using hx, rfl, rfl⟩, fun _ => ⟨rfl, rfl, rfl, rfl⟩⟩
  rw [if_neg (by simpa using hz)]
  by_cases hend : pos = (w.hdr c).size
  · rw [if_pos (decide_eq_true hend)]
    by_cases hone : 1 = count
    · rw [if_pos (decide_eq_true hone)]
      subst hone hend
      exact Res.sat_mono (appendElement_ins cfg c s w hv hl hNmax ha hstrong)
        (fun _ _ ⟨hr, hi, hk⟩ => ⟨hr, hi, fun h => hk (by omega)⟩) (fun _ _ h => h)
    · rw [if_neg (by simpa using hone)]
      refine Res.sat_mono (appendCopies_sat cfg c count s w hv hl hNmax ha) ?_ ?_
      · intro r w' ⟨hr, hap⟩
        exact ⟨by rw [hr, hend], hap.inserted hend, fun h => hap.kept (by simp; omega)⟩
      · intro e w' hf
        exact hf.insBasic
  rw [if_neg (by simpa using hend)]
  have hposlt : pos < (w.hdr c).size := by omega
  by_cases hgrow : (w.hdr c).cap - (w.hdr c).size < count
  · rw [if_pos (decide_eq_true hgrow)]
    have := insertRealloc_ins cfg c pos (List.replicate count s) w hv hl hNmax hpos (by simpa using hgrow) (argsOK_replicate count ha)
    simpa using this
  rw [if_neg (by simpa using hgrow)]
  -- the arithmetic of the in-place branches, free of subtraction
  have hfit : (w.hdr c).size + count ≤ (w.hdr c).cap := by omega
  have hcpos : 0 < count := by omega
  clear hgrow hcapmax hsle hz hend hpos
  have hcls := hv.data_kind hl
  have htmp := hl.ntmp_ok
  by_cases hlarge : (w.hdr c).size - pos < count
  · rw [if_pos (decide_eq_true hlarge)]
    have hrun := insertInPlaceLarge_sat cfg c pos (w := w) hv hl hposlt
      (tailSrcs := List.replicate (count - ((w.hdr c).size - pos)) s) (withTmp := some s)
      (hsOf := fun t => List.replicate ((w.hdr c).size - pos) (.copyOf t 0))
      (headVals := List.replicate ((w.hdr c).size - pos) (srcVal w s))
      (hroom := by simp; omega) (hta := argsOK_replicate _ ha) (htmpsrc := fun s' h => by cases h; exact ha)
      (hlen := fun _ => by simp) (hhl := by simp)
      (hnm := fun t s' hs' => by rw [List.eq_of_mem_replicate hs']; rfl)
      (hhead := fun t wX htv => by
        obtain ⟨htd, htv⟩ := htv s rfl
        refine ⟨fun s' hs' b i hl' => ?_, fun s' hs' b i hl' => ?_, ?_⟩
        · rw [List.eq_of_mem_replicate hs'] at hl'; cases hl'; exact ⟨_, htv⟩
        · rw [List.eq_of_mem_replicate hs'] at hl'; cases hl'; exact htd
        · rw [List.map_replicate, srcVal_copyOf wX t 0 _ htv])
    rw [List.map_replicate, List.replicate_append_replicate,
      show (w.hdr c).size - pos + (count - ((w.hdr c).size - pos)) = count by omega] at hrun
    exact sat_bind hrun (fun _ w' ⟨hi, hk⟩ => ⟨rfl, hi, fun _ => hk⟩) (fun _ _ h => h.1.insBasic)
  · rw [if_neg (by simpa using hlarge)]
    have htail : pos + count ≤ (w.hdr c).size := by omega
    clear hlarge
    have hm0 := MidIns.start hv pos ((w.hdr c).size + count) hfit
    generalize hn : (w.hdr c).size = n at *
    generalize hdd : (w.hdr c).data = d at *
    have htc := tmp_not_cls htmp
    have htd : w.ntmp ≠ d := fun e => htc (e ▸ hcls)
    have fail : ∀ w' n', n' ≤ n + count → MidIns w w' c pos (n + count) n' → InsBasic cfg w w' c :=
      fun w' n' h hm => (hm.fail hv hl h (by omega) (by omega)).insBasic
    refine withTemp_sat cfg s hm0 (by rw [hdd]; exact hcls) htmp ha.nonmoving ha.live
      (fun b i hl' => by rw [(ha.inside b i hl').1, hdd]; exact htd.symm) (fun w2 hm2 htmp2 hsame2 => ?_)
      (fun e w2 hm2 => fail w2 _ (by omega) hm2)
    have hlen : (List.replicate count (Src.copyOf (α := α) w.ntmp 0)).length = count := List.length_replicate
    have hsm := insertInPlaceSmall_sat cfg c pos (List.replicate count (.copyOf w.ntmp 0)) (hlen.symm ▸ hm2) hdd (by omega)
      (by omega) (Nat.le_refl _) (fun s' hs' => by rw [List.eq_of_mem_replicate hs']; rfl)
      (fun s' hs' b i hl' => by rw [List.eq_of_mem_replicate hs'] at hl'; cases hl'; exact ⟨_, htmp2⟩)
      (fun s' hs' b i hl' => by rw [List.eq_of_mem_replicate hs'] at hl'; cases hl'; exact htd)
    simp only [List.length_replicate] at hsm
    refine sat_bind (sat_finally_tmp cfg (E := fun _ w' => InsBasic cfg w w' c)
      (Q := fun _ w4 => MidIns w w4 c pos (n + count) (n + count) ∧
        (∀ j, j < count → (w4.mem d)[pos + j]? = some (.obj (srcVal w s))) ∧
        ∀ i, pos ≤ i → i < n → (w4.mem d)[i + count]? = (w.mem d)[i]?)
      (E1 := fun _ w4 => ∃ n', n' ≤ n + count ∧ MidIns w w4 c pos (n + count) n') (Res.sat_mono hsm ?_ ?_)
      (fun _ w4 w5 ⟨hm4, hp4, hs4⟩ hc5 hr5 => ⟨hm4.tmp hc5 (by rw [hdd]; exact hcls) htc hr5,
        fun j hj => (hr5 d _ htd.symm).trans (hp4 j hj), fun i a b => (hr5 d _ htd.symm).trans (hs4 i a b)⟩)
      (fun _ w4 w5 ⟨n', hn', hm4⟩ hc5 hr5 => fail w5 n' hn' (hm4.tmp hc5 (by rw [hdd]; exact hcls) htc hr5))) ?_ (fun _ _ h => h)
    · intro _ w4 ⟨h1, h2, h3, h4, _⟩
      refine ⟨isObj_of_eq (h4.ne htd 0) ⟨_, htmp2⟩, h1, fun j hj => ?_, fun i a b => by rw [h3 i a b]; exact hsame2 d i htd.symm⟩
      rw [h2 j hj, List.getElem_replicate, srcVal_copyOf w2 _ _ _ htmp2]
    · intro _ w4 ⟨n', h1, h2, h3, _⟩
      exact ⟨isObj_of_eq (h3.ne htd 0) ⟨_, htmp2⟩, n', by omega, h2⟩
    · intro _ w5 ⟨hm5, hp5, hs5⟩
      obtain ⟨hi, hk⟩ := hm5.inserted (vals := List.replicate count (srcVal w s)) hv hl hn hdd (by simp) rfl (by omega) hfit
        (fun j hj => by rw [hp5 j (by simpa using hj)]; simp) hs5
      exact ⟨rfl, hi, fun _ => hk⟩

end SvModel
