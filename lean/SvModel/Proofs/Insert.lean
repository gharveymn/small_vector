/-
The insert family, reallocating branch: `insertRealloc` (shared by emplace_into_reallocation, insert_copies,
insert_range_helper): allocate, build the inserted elements at new[pos …), relocate the prefix, relocate the suffix,
reset_data; every stage rolls back on a throw.  Relocation is NOT under the strong policy here (elements may be moved), so
a throw leaves a valid container with the same header, possibly holding moved-from values: basic guarantee.
-/
import SvModel.Proofs.AppendN

namespace SvModel
open Gen
variable {α : Type}

structure Inserted (cfg : Cfg) (w w' : World α) (c pos : Nat) (vals : List (Val α)) : Prop where
  basic : Basic cfg w w' c
  holds : ∀ xs, Holds w c xs → Holds w' c (xs.take pos ++ vals ++ xs.drop pos)
  size  : (w'.hdr c).size = (w.hdr c).size + vals.length
  alloc : (w'.hdr c).alloc = (w.hdr c).alloc

theorem ins_getElem? {β : Type} (xs vals : List β) (pos i : Nat) (hpos : pos ≤ xs.length) :
    (xs.take pos ++ vals ++ xs.drop pos)[i]? =
      if i < pos then xs[i]? else if i < pos + vals.length then vals[i - pos]? else xs[i - vals.length]? := by
  rw [List.append_assoc, List.getElem?_append, List.length_take, Nat.min_eq_left hpos]
  split
  · rw [List.getElem?_take_of_lt ‹_›]
  · rw [List.getElem?_append]
    split
    · rw [if_pos (by omega)]
    · rw [if_neg (by omega), List.getElem?_drop]
      congr 1
      omega

theorem holds_insert_of_slots {w w' : World α} {c : Nat} {xs vals : List (Val α)} {d n pos : Nat}
    (hx : Holds w c xs) (hn : n = (w.hdr c).size) (hpos : pos ≤ n)
    (hsize : (w'.hdr c).size = n + vals.length) (hdata : (w'.hdr c).data = d)
    (hpre : ∀ i, i < pos → (w'.mem d)[i]? = (w.mem (w.hdr c).data)[i]?)
    (hnew : ∀ k (h : k < vals.length), (w'.mem d)[pos + k]? = some (.obj vals[k]))
    (hsuf : ∀ i, pos ≤ i → i < n → (w'.mem d)[i + vals.length]? = (w.mem (w.hdr c).data)[i]?) :
    Holds w' c (xs.take pos ++ vals ++ xs.drop pos) := by
  have hxl : xs.length = n := hx.1.trans hn.symm
  have hlen : (xs.take pos ++ vals ++ xs.drop pos).length = n + vals.length := by
    simp only [List.length_append, List.length_take, List.length_drop]; omega
  refine ⟨hlen.trans hsize.symm, fun i hi => ?_⟩
  rw [hlen] at hi
  have key : (w'.mem d)[i]? = (xs.take pos ++ vals ++ xs.drop pos)[i]?.map Slot.obj := by
    rw [ins_getElem? xs vals pos i (by omega)]
    split
    · rw [hpre i ‹_›]
      exact hx.get? i (by omega)
    · split
      · have := hnew (i - pos) (by omega)
        rw [Nat.add_sub_cancel' (by omega)] at this
        rw [this, List.getElem?_eq_getElem (by omega)]; rfl
      · have := hsuf (i - vals.length) (by omega) (by omega)
        rw [Nat.sub_add_cancel (by omega)] at this
        rw [this]
        exact hx.get? _ (by omega)
  rw [hdata, key, List.getElem?_eq_getElem (hlen ▸ hi)]; rfl

/-- the block `w.next` while it is being filled on behalf of `c`: live exactly on [lo, hi); the header of `c` is still the old
    one and its old buffer still holds `size` live objects (`Built`) -/
structure NewBlk (cfg : Cfg) (w w' : World α) (c ncap lo hi : Nat) : Prop where
  built : Built cfg w w' c ncap
  objs  : ∀ i, lo ≤ i → i < hi → IsObj w' w.next i
  raws  : ∀ i, i < ncap → ¬ (lo ≤ i ∧ i < hi) → IsRaw w' w.next i

theorem NewBlk.abort_sat {cfg : Cfg} {w w' : World α} {c ncap lo hi : Nat} {β : Type}
    {Q : β → World α → Prop} (h : NewBlk cfg w w' c ncap lo hi)
    (hv : VecOK cfg w c) (hl : Ledger w) (k : Nat) (hk : lo + k = hi) (e : Exc) :
    ((destroyRange cfg w.next lo k >>= fun _ => deallocate (w.hdr c).alloc w.next ncap >>= fun _ => (throwE e : M α β)) w').sat
      Q (fun _ w'' => Basic cfg w w'' c ∧ w''.hdr c = w.hdr c ∧ w''.live = w.live) := by
  subst hk
  refine sat_bind (destroyRange_sat cfg w.next k lo w' h.objs) (fun _ w5 ⟨hc5, hr5, hs5⟩ => ?_) (fun _ _ x => x.elim)
  have hb5 := h.built.step_new (hv.next_ne hl).1 hc5 (fun b i hb => hs5.ne hb i)
  obtain ⟨w6, hd, hbs, hh6, hlv6⟩ := abort_realloc_basic hv hl hb5 (fun i hi => by
    by_cases hi' : lo ≤ i ∧ i < lo + k
    · exact hr5 i hi'.1 hi'.2
    · exact isRaw_of_eq (hs5 _ i (fun x => hi' x.2)) (h.raws i hi hi'))
  rw [bind_run, hd]
  exact ⟨hbs, by rw [hh6], hlv6⟩

/-- relocate [sidx, sidx + n) of the old buffer to the n raw slots of the new block just below or just above its live
    range -/
theorem NewBlk.reloc_sat {cfg : Cfg} {w wa : World α} {c ncap lo hi : Nat} (h : NewBlk cfg w wa c ncap lo hi)
    (hv : VecOK cfg w c) (hl : Ledger w) (sidx n didx : Nat) {lo' hi' : Nat}
    (hs : sidx + n ≤ (w.hdr c).size) (hd : didx + n ≤ ncap)
    (hadj : (lo' = didx ∧ didx + n = lo ∧ hi' = hi) ∨ (lo' = lo ∧ hi = didx ∧ hi' = didx + n)) (hlh : lo ≤ hi) :
    (uninitializedMove cfg false (w.hdr c).data sidx n w.next didx wa).sat
      (fun _ wb => NewBlk cfg w wb c ncap lo' hi' ∧
          (∀ j, j < n → (wb.mem w.next)[didx + j]? = (wa.mem (w.hdr c).data)[sidx + j]?) ∧
          (∀ i, ¬ (didx ≤ i ∧ i < didx + n) → (wb.mem w.next)[i]? = (wa.mem w.next)[i]?) ∧
          (∀ i, ¬ (sidx ≤ i ∧ i < sidx + n) → (wb.mem (w.hdr c).data)[i]? = (wa.mem (w.hdr c).data)[i]?))
      (fun e wb => e = .elem ∧ NewBlk cfg w wb c ncap lo hi) := by
  have hdis : ∀ i, didx ≤ i → i < didx + n → ¬ (lo ≤ i ∧ i < hi) := fun i a b x => by omega
  have hcov : ∀ i, (lo' ≤ i ∧ i < hi') ↔ (lo ≤ i ∧ i < hi) ∨ (didx ≤ i ∧ i < didx + n) := fun i => by omega
  refine Res.sat_mono (h.built.reloc_sat false (hv.next_ne hl).1 hs
    (fun k hk => h.raws _ (by omega) (hdis _ (Nat.le_add_right _ _) (Nat.add_lt_add_left hk _))))
    (fun _ wb ⟨hb, hdst, hkn, hko⟩ => ⟨⟨hb, fun i a b => ?_, fun i hi hn => ?_⟩, hdst, hkn, hko⟩)
    (fun e wb ⟨he, _, hb, hraw, hkn, _⟩ => ⟨he, hb, fun i a b => ?_, fun i hi hn => ?_⟩)
  · by_cases hi' : didx ≤ i ∧ i < didx + n
    · have := hdst (i - didx) (by omega)
      rw [Nat.add_sub_cancel' hi'.1] at this
      exact isObj_of_eq this (h.built.objs _ (by omega))
    · have hold := ((hcov i).mp ⟨a, b⟩).resolve_right hi'
      exact isObj_of_eq (hkn i hi') (h.objs i hold.1 hold.2)
  · exact isRaw_of_eq (hkn i (fun x => hn ((hcov i).mpr (Or.inr x)))) (h.raws i hi (fun x => hn ((hcov i).mpr (Or.inl x))))
  · exact isObj_of_eq (hkn i (fun x => hdis i x.1 x.2 ⟨a, b⟩)) (h.objs i a b)
  · by_cases hi' : didx ≤ i ∧ i < didx + n
    · exact (forall_range (P := fun i => IsRaw wb _ i)).mp hraw i hi'.1 hi'.2
    · exact isRaw_of_eq (hkn i hi') (h.raws i hi hn)

/-- a throw at any stage destroys what the new block holds and gives it back, so the
    container keeps its header (basic guarantee: the old elements may be moved-from) -/
theorem insertRealloc_sat (cfg : Cfg) (c pos : Nat) (srcs : List (Src α)) (w : World α)
    (hv : VecOK cfg w c) (hl : Ledger w) (hpos : pos ≤ (w.hdr c).size)
    (hgrow : (w.hdr c).cap < (w.hdr c).size + srcs.length) (hmax : (w.hdr c).size + srcs.length ≤ cfg.maxSize)
    (ha : ArgsOK cfg w c srcs) :
    (insertRealloc cfg c pos srcs w).sat
      (fun r w' => r = pos ∧ Inserted cfg w w' c pos (srcs.map (srcVal w)) ∧ (w'.hdr c).data = w.next ∧
                   (w'.hdr c).cap = newCapacity cfg.maxSize (w.hdr c).cap ((w.hdr c).size + srcs.length))
      (fun _ w' => Basic cfg w w' c ∧ w'.hdr c = w.hdr c ∧ w'.live = w.live) := by
  unfold insertRealloc
  rw [getV_bind]
  generalize hncap : newCapacity cfg.maxSize (w.hdr c).cap ((w.hdr c).size + srcs.length) = ncap
  obtain ⟨hge, hle⟩ : (w.hdr c).size + srcs.length ≤ ncap ∧ ncap ≤ cfg.maxSize := by
    rw [← hncap]; exact newCapacity_bounds _ _ _ hgrow hmax
  obtain ⟨hnd, hni⟩ := hv.next_ne hl
  have hN : (w.hdr c).N < ncap := by have := hv.cap_ge; omega
  refine sat_bind (allocate_sat cfg (w.hdr c).alloc ncap w) (fun nb w2 h2 => ?_)
    (fun e w2 h => ⟨(Strong.of_quiet hl h.2).basic hl hv, by rw [h.2.2.hdr], h.2.2.live⟩)
  obtain ⟨hnb, hm2, ho2, hlv2, hn2, hh2, ht2, hu2⟩ := h2
  subst hnb
  obtain ⟨hb2, hraw2, hoth2⟩ := Built.of_alloc (c := c) hv hl hm2 ho2 hlv2 hn2 hh2 ht2 hu2
  have hsrc2 : ∀ s ∈ srcs, SrcLive w2 s ∧ srcVal w2 s = srcVal w s := fun s hs =>
    have hb : ∀ b i, s.loc = some (b, i) → w2.mem b = w.mem b :=
      fun b i hl' => hoth2 b (by rw [(ha.inside s hs b i hl').1]; exact hnd.symm)
    ⟨fun b i hl' => isObj_of_eq (by rw [hb b i hl']) (ha.live s hs b i hl'), srcVal_congr w w2 s (fun b i hl' => by rw [hb b i hl'])⟩
  refine sat_bind (sat_tryCatch (Q := fun _ w3 => NewBlk cfg w w3 c ncap pos (pos + srcs.length) ∧
      (∀ k (h : k < srcs.length), (w3.mem w.next)[pos + k]? = some (.obj (srcVal w srcs[k]))) ∧
      (∀ i : Nat, (w3.mem (w.hdr c).data)[i]? = (w.mem (w.hdr c).data)[i]?))
      (Res.sat_mono (uninitGen_nonmoving_sat cfg w.next pos srcs 0 w2 ha.nonmoving (fun s hs => (hsrc2 s hs).1)
        (fun j h => by omega) (fun k hk => hraw2 _ (by omega))) ?_ (fun _ _ h => h)) ?_) ?_ (fun _ _ h => h)
  · intro _ w3 ⟨hc3, hv3, hs3⟩
    refine ⟨⟨hb2.step_new hnd hc3 (fun b i hb => hs3 b i (fun x => hb x.1)), fun i a b => ?_, fun i hi hn => ?_⟩,
            fun k hk => (hv3 k hk).trans (by rw [(hsrc2 _ (List.getElem_mem hk)).2]), fun i => ?_⟩
    · have := hv3 (i - pos) (by omega)
      rw [Nat.add_zero, show pos + (i - pos) = i by omega] at this
      exact ⟨_, this⟩
    · exact isRaw_of_eq (hs3 _ i (fun x => hn x.2)) (hraw2 i hi)
    · rw [hs3 _ i (fun x => hnd x.1.symm), hoth2 _ hnd.symm]
  · -- building threw: everything is raw again
    intro e w3 ⟨_, hc3, hr3, hs3⟩
    have hn3 : NewBlk cfg w w3 c ncap pos (pos + 0) :=
      ⟨hb2.step_new hnd hc3 (fun b i hb => hs3 b i (fun x => hb x.1)), fun i a b => (Nat.not_lt_of_le a b).elim, fun i hi _ => by
        by_cases hi' : pos ≤ i ∧ i < pos + 0 + srcs.length
        · exact hr3 i hi'.1 hi'.2
        · exact isRaw_of_eq (hs3 _ i (fun x => hi' x.2)) (hraw2 i hi)⟩
    exact hn3.abort_sat hv hl 0 rfl e
  intro _ w3 ⟨hn3, hnew3, hdata3⟩
  refine sat_bind (sat_tryCatch (Q := fun _ w4 => NewBlk cfg w w4 c ncap 0 (pos + srcs.length) ∧
      (∀ i, i < pos → (w4.mem w.next)[i]? = (w.mem (w.hdr c).data)[i]?) ∧
      (∀ k (h : k < srcs.length), (w4.mem w.next)[pos + k]? = some (.obj (srcVal w srcs[k]))) ∧
      (∀ i, pos ≤ i → (w4.mem (w.hdr c).data)[i]? = (w.mem (w.hdr c).data)[i]?))
      (Res.sat_mono (hn3.reloc_sat hv hl 0 pos 0 (by omega) (by omega) (Or.inl ⟨rfl, Nat.zero_add _, rfl⟩) (Nat.le_add_right _ _))
        ?_ (fun _ _ h => h))
      (fun e w4 ⟨_, hn4⟩ => hn4.abort_sat hv hl srcs.length rfl e)) ?_ (fun _ _ h => h)
  · intro _ w4 ⟨hn4, hdst4, hkn4, hko4⟩
    refine ⟨hn4, fun i hi => ?_, fun k hk => by rw [hkn4 _ (by omega)]; exact hnew3 k hk,
            fun i hi => by rw [hko4 i (by omega)]; exact hdata3 i⟩
    have := hdst4 i hi
    rw [Nat.zero_add] at this
    rw [this, hdata3]
  intro _ w4 ⟨hn4, hpre4, hnew4, hdata4⟩
  have hhi : pos + srcs.length + ((w.hdr c).size - pos) = (w.hdr c).size + srcs.length := by omega
  refine sat_bind (sat_tryCatch (Q := fun _ w5 => NewBlk cfg w w5 c ncap 0 ((w.hdr c).size + srcs.length) ∧
      (∀ i, i < pos → (w5.mem w.next)[i]? = (w.mem (w.hdr c).data)[i]?) ∧
      (∀ k (h : k < srcs.length), (w5.mem w.next)[pos + k]? = some (.obj (srcVal w srcs[k]))) ∧
      (∀ i, pos ≤ i → i < (w.hdr c).size → (w5.mem w.next)[i + srcs.length]? = (w.mem (w.hdr c).data)[i]?))
      (Res.sat_mono (hn4.reloc_sat hv hl pos ((w.hdr c).size - pos) (pos + srcs.length) (by omega) (by omega)
        (Or.inr ⟨rfl, rfl, hhi.symm⟩) (Nat.zero_le _)) ?_ (fun _ _ h => h))
      (fun e w5 ⟨_, hn5⟩ => hn5.abort_sat hv hl (pos + srcs.length) (Nat.zero_add _) e)) ?_ (fun _ _ h => h)
  · intro _ w5 ⟨hn5, hdst5, hkn5, _⟩
    refine ⟨hn5, fun i hi => by rw [hkn5 _ (by omega)]; exact hpre4 i hi,
            fun k hk => by rw [hkn5 _ (by omega)]; exact hnew4 k hk, fun i h1 h2 => ?_⟩
    have := hdst5 (i - pos) (by omega)
    rw [show pos + srcs.length + (i - pos) = i + srcs.length by omega, Nat.add_sub_cancel' h1] at this
    rw [this, hdata4 i h1]
  intro _ w5 ⟨hn5, hpre5, hnew5, hsuf5⟩
  refine sat_bind (finish_realloc (n' := (w.hdr c).size + srcs.length) hv hl hn5.built hN hle hge (fun i hi => hn5.objs i (Nat.zero_le _) hi)
    (fun i h1 h2 => hn5.raws i h2 (fun x => Nat.not_le_of_lt x.2 h1))) (fun _ w' ⟨hvec, hled, hframe, hub, hhc, hmemn, hnext⟩ => ?_) (fun _ _ h => h.elim)
  have hml : (srcs.map (srcVal w)).length = srcs.length := List.length_map _
  refine ⟨rfl, ⟨⟨hvec, hled, hub, hframe⟩, fun xs hx => ?_, by rw [hhc, hml], by rw [hhc]⟩, by rw [hhc], by rw [hhc]⟩
  refine holds_insert_of_slots (d := w.next) hx rfl hpos (by rw [hhc, hml]) (by rw [hhc]) (fun i hi => by rw [hmemn]; exact hpre5 i hi)
    (fun k hk => ?_) (fun i h1 h2 => by rw [hmemn, hml]; exact hsuf5 i h1 h2)
  rw [hmemn, hnew5 k (hml ▸ hk), List.getElem_map]

end SvModel
