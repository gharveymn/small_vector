/-
Moving assignment across blocks: `std::move (first, last, d_first)` from the elements of ANOTHER block
(`assignGen` over `srcsMove b i n` with `b ≠ dblk`).  On return the targets hold the sources' values and every source
slot is a husk (when the type really moves) or unchanged (when "move" is a copy); on a throw both ranges are still
objects (a prefix assigned / moved-from), nothing else changed.
-/
import SvModel.Proofs.AssignSpec

namespace SvModel
variable {α : Type}

theorem assignGen_move_sat (c : Cfg) (dblk b : Nat) (hne : b ≠ dblk) (n i d : Nat) (w : World α)
    (hsrc : ∀ k, k < n → IsObj w b (i + k))
    (hdst : ∀ k, k < n → IsObj w dblk (d + k)) :
    (assignGen c dblk d (srcsMove b i n) w).sat
      (fun _ w' => Ctl w w' ∧
        (∀ k, k < n → (w'.mem dblk)[d + k]? = (w.mem b)[i + k]?) ∧
        (∀ k, k < n → (w'.mem b)[i + k]? = if c.realMove then some (.obj .husk) else (w.mem b)[i + k]?) ∧
        (∀ b' i', ¬ (b' = dblk ∧ d ≤ i' ∧ i' < d + n) → ¬ (b' = b ∧ i ≤ i' ∧ i' < i + n) → (w'.mem b')[i']? = (w.mem b')[i']?))
      (fun e w' => e = .elem ∧ Ctl w w' ∧
        (∀ k, k < n → IsObj w' dblk (d + k)) ∧ (∀ k, k < n → IsObj w' b (i + k)) ∧
        (∀ b' i', ¬ (b' = dblk ∧ d ≤ i' ∧ i' < d + n) → ¬ (b' = b ∧ i ≤ i' ∧ i' < i + n) → (w'.mem b')[i']? = (w.mem b')[i']?)) := by
  have hlen := srcsMove_length (α := α) b i n
  have hap : Apart b i dblk d n := fun _ _ _ _ e => by injection e with e _; exact hne e
  refine Res.sat_mono (loop_sat (loop := assignGen c dblk) (fun _ => rfl) (fun _ _ _ => rfl) (srcsMove b i n)
    (fun k w' => Moved c w w' b i dblk d k) d w (Moved.zero ..) (fun k hk w1 h => ?_))
    (fun _ w' h => by rw [hlen] at h; exact ⟨h.ctl, h.dst, h.src, h.rest⟩) (fun _ _ h => h)
  have hkn : k < n := hlen ▸ hk
  have hsrc1 : ∀ {w' : World α}, Moved c w w' b i dblk d k → ∀ j, j < n → IsObj w' b (i + j) := fun h' j hj =>
    isObj_of_same_or_husk (hsrc j hj) (h'.src_cases (Nat.le_of_lt hkn) hap j hj)
  have hdst1 : ∀ {w' : World α}, Moved c w w' b i dblk d k → ∀ j, j < n → IsObj w' dblk (d + j) := fun h' j hj => by
    by_cases hjk : j < k
    · exact isObj_of_eq (h'.dst j hjk) (hsrc j hj)
    · exact isObj_of_eq (h'.rest dblk (d + j) (fun ⟨_, _, h3⟩ => by omega) (fun ⟨e, _, _⟩ => hne e.symm)) (hdst j hj)
  rw [srcsMove_get]
  obtain ⟨u, hu⟩ := hdst1 h k hkn
  refine Res.sat_mono (assignSrc_sat c dblk (d + k) (.moveOf b (i + k)) w1 u hu (fun b' i' hl => by cases hl; exact hsrc1 h k hkn)
      (fun hl => by injection hl with hl; injection hl with e _; exact hne e))
    (fun _ w2 hw => h.step hkn hsrc hap hw) (fun e w2 ⟨he, hq⟩ => ?_)
  have h2 := h.quiet hq
  exact ⟨he.1, h2.ctl, hdst1 h2, hsrc1 h2, fun b' i' hn1 hn2 =>
    h2.rest b' i' (fun ⟨e, h1, h3⟩ => hn1 ⟨e, h1, by omega⟩) (fun ⟨e, h1, h3⟩ => hn2 ⟨e, h1, by omega⟩)⟩

end SvModel
