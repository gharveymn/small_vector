/-
A step that changes TWO constructed containers at once (the paths of swap in which a buffer changes owner between the
two containers): the counterpart of `SysOK.step` / `SysAll.step` when the outcome cannot be factorised into two
single-container steps.  The stealing path of move assignment does not need it: it is a destruction followed by
a construction (`SysAll.adopt` in Proofs/Steal.lean).
-/
import SvModel.Proofs.SysInv

namespace SvModel
open Gen
variable {α : Type}

/-- `mem_other` speaks of heap blocks (odd ids) and in-object buffers (ids below 5) only, as `Frame1.mem_other` does: a step
    may write temporaries (even ids from 6 on).  `data_c` / `data_o` say where each heap buffer afterwards comes from, which
    does not exclude that both come from the same block: hence `dist`.  The live blocks are accounted for by two one-way
    inclusions, `live_keep` (nobody else's block is freed) and `live_acc` (nothing is live but the two buffers and the
    others' blocks), because the old buffers of `c` and `o` may be kept or freed. -/
structure Frame2 (w w' : World α) (c o : Nat) : Prop where
  hdr_other : ∀ d, d ≠ c → d ≠ o → w'.hdr d = w.hdr d
  hdr_c     : (w'.hdr c).N = (w.hdr c).N ∧ (w'.hdr c).inl = (w.hdr c).inl
  hdr_o     : (w'.hdr o).N = (w.hdr o).N ∧ (w'.hdr o).inl = (w.hdr o).inl
  mem_other : ∀ b, b ≠ (w.hdr c).data → b ≠ (w.hdr c).inl → b ≠ (w.hdr o).data → b ≠ (w.hdr o).inl → b < w.next →
                b % 2 = 1 ∨ b < 5 → w'.mem b = w.mem b
  owner_old : ∀ b, b < w.next → w'.owner b = w.owner b
  next_mono : w.next ≤ w'.next
  data_c    : (w'.hdr c).data ≠ (w'.hdr c).inl →
                ((w'.hdr c).data = (w.hdr c).data ∧ (w.hdr c).data ≠ (w.hdr c).inl) ∨
                ((w'.hdr c).data = (w.hdr o).data ∧ (w.hdr o).data ≠ (w.hdr o).inl) ∨ w.next ≤ (w'.hdr c).data
  data_o    : (w'.hdr o).data ≠ (w'.hdr o).inl →
                ((w'.hdr o).data = (w.hdr c).data ∧ (w.hdr c).data ≠ (w.hdr c).inl) ∨
                ((w'.hdr o).data = (w.hdr o).data ∧ (w.hdr o).data ≠ (w.hdr o).inl) ∨ w.next ≤ (w'.hdr o).data
  dist      : (w'.hdr c).data ≠ (w'.hdr c).inl → (w'.hdr o).data ≠ (w'.hdr o).inl → (w'.hdr c).data ≠ (w'.hdr o).data
  live_keep : ∀ b ∈ w.live, b ≠ (w.hdr c).data → b ≠ (w.hdr o).data → b ∈ w'.live
  live_acc  : ∀ b ∈ w'.live, b = (w'.hdr c).data ∨ b = (w'.hdr o).data ∨
                (b ∈ w.live ∧ b ≠ (w.hdr c).data ∧ b ≠ (w.hdr o).data)

theorem Frame2.inl_other {cfg : Cfg} {w w' : World α} {c o : Nat} (hf : Frame2 w w' c o)
    (hvc : VecOK cfg w c) (hvo : VecOK cfg w o) (hl : Ledger w) (hvc' : VecOK cfg w' c) (hvo' : VecOK cfg w' o)
    {i : Nat} (hi5 : i < 5)
    (hci : i ≠ (w.hdr c).inl ∨ ((w.hdr c).N = 0 ∧ w.mem i = []))
    (hoi : i ≠ (w.hdr o).inl ∨ ((w.hdr o).N = 0 ∧ w.mem i = [])) : w'.mem i = w.mem i := by
  have hn5 := hl.next_ok.2
  exact inl_block_eq hci (inl_nil_of hvc'.inl_nil hf.hdr_c.1 hf.hdr_c.2) (fun h1 =>
    inl_block_eq hoi (inl_nil_of hvo'.inl_nil hf.hdr_o.1 hf.hdr_o.2) (fun h2 =>
      hf.mem_other i (hvc.ne_data hl hi5 h1) h1 (hvo.ne_data hl hi5 h2) h2 (by omega) (Or.inr hi5)))

theorem SysOK.other2 {cfg : Cfg} {w w' : World α} {A : List Nat} {c o : Nat} (hs : SysOK cfg w A) (hc : c ∈ A) (ho : o ∈ A)
    (hf : Frame2 w w' c o) (hvc' : VecOK cfg w' c) (hvo' : VecOK cfg w' o) : ∀ d ∈ A, d ≠ c → d ≠ o →
      w'.hdr d = w.hdr d ∧ w'.mem (w.hdr d).data = w.mem (w.hdr d).data ∧ w'.mem (w.hdr d).inl = w.mem (w.hdr d).inl := by
  have hvc := hs.vec c hc
  have hvo := hs.vec o ho
  have hl := hs.led
  intro d hd hdc hdo
  have hvd := hs.vec d hd
  have hsc := hs.sep d hd c hc hdc
  have hso := hs.sep d hd o ho hdo
  have hinl : w'.mem (w.hdr d).inl = w.mem (w.hdr d).inl :=
    hf.inl_other hvc hvo hl hvc' hvo' hvd.inl_lt (InlSep.block hsc.inl hvd.inl_nil) (InlSep.block hso.inl hvd.inl_nil)
  refine ⟨hf.hdr_other d hdc hdo, ?_, hinl⟩
  by_cases hdh : (w.hdr d).data = (w.hdr d).inl
  · rw [hdh]; exact hinl
  · have hodd := hvd.data_odd hl hdh
    have := hvc.inl_lt; have := hvo.inl_lt
    exact hf.mem_other _ (hsc.data hdh) (by omega) (hso.data hdh) (by omega) hodd.2.2 (Or.inl hodd.2.1)

theorem SysOK.holds_other2 {cfg : Cfg} {w w' : World α} {A : List Nat} {c o d : Nat} {xs : List (Val α)} (hs : SysOK cfg w A)
    (hc : c ∈ A) (ho : o ∈ A) (hf : Frame2 w w' c o) (hvc' : VecOK cfg w' c) (hvo' : VecOK cfg w' o)
    (hd : d ∈ A) (hdc : d ≠ c) (hdo : d ≠ o) (hx : Holds w d xs) : Holds w' d xs := by
  obtain ⟨hh, hm, _⟩ := hs.other2 hc ho hf hvc' hvo' d hd hdc hdo
  exact hx.of_mem_eq hh hm

theorem SysAll.step2 {cfg : Cfg} {w w' : World α} {U A : List Nat} {c o : Nat} (hs : SysAll cfg w U A) (hc : c ∈ A) (ho : o ∈ A)
    (hco : c ≠ o) (hf : Frame2 w w' c o) (hvc' : VecOK cfg w' c) (hvo' : VecOK cfg w' o) (hl' : Ledger w') (hub : w'.ub = w.ub) :
    SysAll cfg w' U A := by
  have hvc := hs.ok.vec c hc
  have hvo := hs.ok.vec o ho
  have hl := hs.ok.led
  have other := hs.ok.other2 hc ho hf hvc' hvo'
  have foreign : ∀ x, (x = c ∨ x = o) → (w'.hdr x).data ≠ (w'.hdr x).inl →
      ∀ d ∈ A, d ≠ c → d ≠ o → (w'.hdr x).data ≠ (w'.hdr d).data := by
    intro x hx hne d hd hdc hdo
    have hdlt := (hs.ok.vec d hd).data_lt_next hl
    have key : ((w'.hdr x).data = (w.hdr c).data ∧ (w.hdr c).data ≠ (w.hdr c).inl) ∨
               ((w'.hdr x).data = (w.hdr o).data ∧ (w.hdr o).data ≠ (w.hdr o).inl) ∨ w.next ≤ (w'.hdr x).data := by
      rcases hx with h | h
      · rw [h] at hne ⊢; exact hf.data_c hne
      · rw [h] at hne ⊢; exact hf.data_o hne
    rw [(other d hd hdc hdo).1]
    rcases key with ⟨h1, h2⟩ | ⟨h1, h2⟩ | h
    · rw [h1]; exact (hs.ok.sep c hc d hd (Ne.symm hdc)).data h2
    · rw [h1]; exact (hs.ok.sep o ho d hd (Ne.symm hdo)).data h2
    · omega
  refine hs.remake (SameShape.of_other2 hf.hdr_other hf.hdr_c hf.hdr_o) hs.sub ?_ hl' hub ?_ ?_ ?_
  · intro d hd
    by_cases hdc : d = c
    · rw [hdc]; exact hvc'
    by_cases hdo : d = o
    · rw [hdo]; exact hvo'
    obtain ⟨hh, hmd, hmi⟩ := other d hd hdc hdo
    have hvd := hs.ok.vec d hd
    refine (hvd.of_mem_eq hh hmi (fun hne => ?_)).1
    exact ⟨hmd, hf.live_keep _ (hvd.heap hne).1 ((hs.ok.sep d hd c hc hdc).data hne) ((hs.ok.sep d hd o ho hdo).data hne),
           hf.owner_old _ (hvd.data_odd hl hne).2.2⟩
  · intro x hx y hy hxy hnx hny
    by_cases hxc : x = c
    · by_cases hyo : y = o
      · rw [hxc] at hnx ⊢; rw [hyo] at hny ⊢; exact hf.dist hnx hny
      · exact foreign x (Or.inl hxc) hnx y hy (fun h => hxy (hxc.trans h.symm)) hyo
    by_cases hxo : x = o
    · by_cases hyc : y = c
      · rw [hxo] at hnx ⊢; rw [hyc] at hny ⊢; exact fun h => hf.dist hny hnx h.symm
      · exact foreign x (Or.inr hxo) hnx y hy hyc (fun h => hxy (hxo.trans h.symm))
    by_cases hyc : y = c
    · exact fun h => foreign y (Or.inl hyc) hny x hx hxc hxo h.symm
    by_cases hyo : y = o
    · exact fun h => foreign y (Or.inr hyo) hny x hx hxc hxo h.symm
    rw [(other x hx hxc hxo).1] at hnx ⊢
    rw [(other y hy hyc hyo).1]
    exact (hs.ok.sep x hx y hy hxy).data hnx
  · intro b hbl
    rcases hf.live_acc b hbl with h | h | ⟨h1, h2, h3⟩
    · exact ⟨c, hc, h.symm⟩
    · exact ⟨o, ho, h.symm⟩
    · obtain ⟨d, hd, hdd⟩ := hs.ok.noleak b h1
      have hdc : d ≠ c := fun h => h2 (by rw [← hdd, h])
      have hdo : d ≠ o := fun h => h3 (by rw [← hdd, h])
      exact ⟨d, hd, by rw [(other d hd hdc hdo).1]; exact hdd⟩
  · intro d hdU hdA
    have hdc : d ≠ c := fun h => hdA (h ▸ hc)
    have hdo : d ≠ o := fun h => hdA (h ▸ ho)
    have hud := hs.unborn d hdU hdA
    exact hud.of_mem_eq (hf.hdr_other d hdc hdo) (hf.inl_other hvc hvo hl hvc' hvo' hud.inl_lt
      ((hs.inlsep d hdU c (hs.sub c hc) hdc).block hud.inl_nil) ((hs.inlsep d hdU o (hs.sub o ho) hdo).block hud.inl_nil))

end SvModel
