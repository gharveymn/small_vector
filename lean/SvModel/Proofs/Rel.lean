/-
`Rel R m` — the computation `m` relates its start world to its end world by `R`, whether it returns or throws.
The trace predicates (`AB`, `EB`, `NoIter`) and the header predicate `AllocKept` are of this form, for a family of
relations graded by a bound `k` (a family that ignores `k` where nothing is counted); their closure under the monad
combinators is proved here once.
-/
import SvModel.Proofs.Hoare

namespace SvModel
variable {α β γ : Type}

def Rel (R : World α → World α → Prop) (m : M α β) : Prop := ∀ w, R w (m w).world

structure Graded (R : Nat → World α → World α → Prop) : Prop where
  refl  : ∀ w, R 0 w w
  trans : ∀ {k1 k2 a b c}, R k1 a b → R k2 b c → R (k1 + k2) a c
  mono  : ∀ {k k' a b}, R k a b → k ≤ k' → R k' a b

theorem Graded.const {S : World α → World α → Prop} (hr : ∀ w, S w w) (ht : ∀ {a b c}, S a b → S b c → S a c) :
    Graded (fun _ => S) :=
  ⟨hr, ht, fun h _ => h⟩

theorem finally_world (m : M α β) (fin : M α Unit) (w : World α) :
    (finally_ m fin w).world = (fin (m w).world).world := by
  rw [finally_run]
  cases m w with
  | ok b w' =>
    show Res.world (match fin w' with | .ok _ w'' => .ok b w'' | .thrown e w'' => .thrown e w'') = (fin w').world
    cases fin w' <;> rfl
  | thrown e w' =>
    show Res.world (match fin w' with | .ok _ w'' => .thrown e w'' | .thrown e' w'' => .thrown e' w'') = (fin w').world
    cases fin w' <;> rfl

section
variable {R : Nat → World α → World α → Prop} (G : Graded R)
include G

theorem Rel.mono {k k' : Nat} {m : M α β} (h : Rel (R k) m) (hk : k ≤ k') : Rel (R k') m := fun w => G.mono (h w) hk
theorem Rel.pure (b : β) : Rel (R 0) (Pure.pure b : M α β) := fun w => G.refl w
theorem Rel.throwE (e : Exc) : Rel (R 0) (SvModel.throwE e : M α β) := fun w => G.refl w

theorem Rel.bind {m : M α β} {f : β → M α γ} {k1 k2 : Nat} (h1 : Rel (R k1) m) (h2 : ∀ b, Rel (R k2) (f b)) :
    Rel (R (k1 + k2)) (m >>= f) := by
  intro w
  have a := h1 w
  rw [bind_run]
  cases hm : m w with
  | ok b w' => rw [hm] at a; exact G.trans a (h2 b w')
  | thrown e w' => rw [hm] at a; exact G.mono a (Nat.le_add_right _ _)

theorem Rel.tryCatch {m : M α β} {h : Exc → M α β} {k1 k2 : Nat} (h1 : Rel (R k1) m) (h2 : ∀ e, Rel (R k2) (h e)) :
    Rel (R (k1 + k2)) (SvModel.tryCatch m h) := by
  intro w
  have a := h1 w
  rw [tryCatch_run]
  cases hm : m w with
  | ok b w' => rw [hm] at a; exact G.mono a (Nat.le_add_right _ _)
  | thrown e w' => rw [hm] at a; exact G.trans a (h2 e w')

theorem Rel.finally {m : M α β} {fin : M α Unit} {k1 k2 : Nat} (h1 : Rel (R k1) m) (h2 : Rel (R k2) fin) :
    Rel (R (k1 + k2)) (finally_ m fin) := by
  intro w
  rw [finally_world]
  exact G.trans (h1 w) (h2 _)

end
end SvModel
