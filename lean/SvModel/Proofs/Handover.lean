/-
Building blocks for steps in which a buffer changes hands between two containers: the loops over the same slots of
two blocks (move-construct, move-assign, destroy over [lo, hi); swap over [0, n)).  The two moving loops state their
frame as `Rows`: `SameOut` over the one index range in each block, so that a use needs no arithmetic.  (`VecOK` for the
container that takes a buffer over, `VecOK.takeover`, and for the one that falls back to its in-object buffer,
`VecOK.mk_inline`, are in Inv.lean, with the transport of `Holds` along such steps.)
-/
import SvModel.Proofs.SysStep2
import SvModel.Proofs.SwapSpec
import SvModel.Proofs.MoveAssignSpec

namespace SvModel
open Gen
variable {α : Type}

structure Rows (w w' : World α) (b1 b2 lo hi : Nat) : Prop where
  ctl  : Ctl w w'
  same : SameOut w w' (Rng2 b1 lo hi b2 lo hi)

theorem Rows.rest {w w' : World α} {b1 b2 lo hi : Nat} (h : Rows w w' b1 b2 lo hi) (b i : Nat)
    (hx : (b ≠ b1 ∧ b ≠ b2) ∨ i < lo ∨ hi ≤ i) : (w'.mem b)[i]? = (w.mem b)[i]? :=
  h.same b i (fun x => hx.elim (fun y => x.elim (fun z => y.1 z.1) (fun z => y.2 z.1))
    (fun y => y.elim (fun y => x.elim (fun z => Nat.not_le_of_lt y z.2.1) (fun z => Nat.not_le_of_lt y z.2.1))
      (fun y => x.elim (fun z => Nat.not_le_of_lt z.2.2 y) (fun z => Nat.not_le_of_lt z.2.2 y))))

theorem Rows.mem_other {w w' : World α} {b1 b2 lo hi : Nat} (h : Rows w w' b1 b2 lo hi) {b : Nat} (h1 : b ≠ b1) (h2 : b ≠ b2) :
    w'.mem b = w.mem b :=
  List.ext_getElem? (h.same.ne2 h1 h2)

/-- `forall_range` for a loop over `hi - lo` slots, with the upper bound spelled `hi` -/
theorem rows_of_offsets {P : Nat → Prop} {lo hi : Nat} (h : ∀ k, k < hi - lo → P (lo + k)) : ∀ i, lo ≤ i → i < hi → P i :=
  fun i h1 h2 => forall_range.mp h i h1 (by omega)

theorem Rows.of_rest {w w' : World α} {b1 b2 lo hi : Nat} (hc : Ctl w w')
    (h : ∀ b i, ¬ (b = b1 ∧ lo ≤ i ∧ i < lo + (hi - lo)) → ¬ (b = b2 ∧ lo ≤ i ∧ i < lo + (hi - lo)) → (w'.mem b)[i]? = (w.mem b)[i]?) :
    Rows w w' b1 b2 lo hi :=
  ⟨hc, fun b i hn => h b i (fun x => hn (Or.inl ⟨x.1, x.2.1, by omega⟩)) (fun x => hn (Or.inr ⟨x.1, x.2.1, by omega⟩))⟩

theorem Rows.outside {w w' : World α} {b1 b2 lo hi : Nat} (h : Rows w w' b1 b2 lo hi) {b i : Nat}
    (h1 : ¬ (b = b1 ∧ i < hi)) (h2 : ¬ (b = b2 ∧ i < hi)) : (w'.mem b)[i]? = (w.mem b)[i]? :=
  h.rest b i (if hi' : i < hi then Or.inl ⟨fun x => h1 ⟨x, hi'⟩, fun x => h2 ⟨x, hi'⟩⟩ else Or.inr (Or.inr (Nat.le_of_not_lt hi')))

theorem relocate_rows_sat (cfg : Cfg) (sblk dblk lo hi : Nat) (w : World α)
    (hsrc : ∀ i, lo ≤ i → i < hi → IsObj w sblk i) (hraw : ∀ i, lo ≤ i → i < hi → IsRaw w dblk i) :
    (uninitializedMove cfg false sblk lo (hi - lo) dblk lo w).sat
      (fun _ w' => Rows w w' dblk sblk lo hi ∧ (∀ i, lo ≤ i → i < hi → (w'.mem dblk)[i]? = (w.mem sblk)[i]?) ∧
                   ∀ i, lo ≤ i → i < hi → IsObj w' sblk i)
      (fun e w' => e = .elem ∧ Rows w w' dblk sblk lo hi ∧ (∀ i, lo ≤ i → i < hi → IsRaw w' dblk i) ∧
                   ∀ i, lo ≤ i → i < hi → IsObj w' sblk i) :=
  Res.sat_mono (uninitializedMove_sat cfg false sblk lo (hi - lo) dblk lo w (fun k hk => hsrc _ (by omega) (by omega))
      (fun k hk => hraw _ (by omega) (by omega)))
    (fun _ _ hr => ⟨Rows.of_rest hr.ctl hr.rest, rows_of_offsets (P := fun i => (_)[i]? = (w.mem sblk)[i]?) hr.dst, rows_of_offsets hr.src⟩)
    (fun _ _ ⟨he, hf⟩ => ⟨he, Rows.of_rest hf.ctl hf.rest, rows_of_offsets hf.dst, rows_of_offsets hf.src⟩)

theorem assignRows_sat (cfg : Cfg) (dblk sblk : Nat) (hne : sblk ≠ dblk) (lo hi : Nat) (w : World α)
    (hsrc : ∀ i, lo ≤ i → i < hi → IsObj w sblk i) (hdst : ∀ i, lo ≤ i → i < hi → IsObj w dblk i) :
    (assignGen cfg dblk lo (srcsMove sblk lo (hi - lo)) w).sat
      (fun _ w' => Rows w w' dblk sblk lo hi ∧ (∀ i, lo ≤ i → i < hi → (w'.mem dblk)[i]? = (w.mem sblk)[i]?) ∧
                   ∀ i, lo ≤ i → i < hi → (w'.mem sblk)[i]? = if cfg.realMove then some (.obj .husk) else (w.mem sblk)[i]?)
      (fun e w' => e = .elem ∧ Rows w w' dblk sblk lo hi ∧ (∀ i, lo ≤ i → i < hi → IsObj w' dblk i) ∧
                   ∀ i, lo ≤ i → i < hi → IsObj w' sblk i) :=
  Res.sat_mono (assignGen_move_sat cfg dblk sblk hne (hi - lo) lo lo w (fun k hk => hsrc _ (by omega) (by omega))
      (fun k hk => hdst _ (by omega) (by omega)))
    (fun _ _ ⟨hc, hv, hh, hrest⟩ => ⟨Rows.of_rest hc hrest, rows_of_offsets (P := fun i => (_)[i]? = (w.mem sblk)[i]?) hv,
      rows_of_offsets (P := fun i => (_)[i]? = if cfg.realMove then some (.obj .husk) else (w.mem sblk)[i]?) hh⟩)
    (fun _ _ ⟨he, hc, hd, hs, hrest⟩ => ⟨he, Rows.of_rest hc hrest, rows_of_offsets hd, rows_of_offsets hs⟩)

theorem destroyRows_sat (cfg : Cfg) (blk lo hi : Nat) (w : World α) (hobj : ∀ i, lo ≤ i → i < hi → IsObj w blk i) :
    (destroyRange cfg blk lo (hi - lo) w).sat
      (fun _ w' => Ctl w w' ∧ (∀ i, lo ≤ i → i < hi → IsRaw w' blk i) ∧ SameOut w w' (Rng blk lo hi))
      (fun _ _ => False) :=
  Res.sat_mono (destroyRange_sat cfg blk (hi - lo) lo w (fun i h1 h2 => hobj i h1 (by omega)))
    (fun _ _ ⟨hc, hr, hrest⟩ => ⟨hc, fun i h1 h2 => hr i h1 (by omega), hrest.mono (fun _ _ ⟨e, h1, h2⟩ => ⟨e, h1, by omega⟩)⟩) (fun _ _ h => h)

theorem relocate_then_destroy_sat (cfg : Cfg) (sblk dblk lo hi : Nat) (w : World α)
    (hsrc : ∀ i, lo ≤ i → i < hi → IsObj w sblk i) (hraw : ∀ i, lo ≤ i → i < hi → IsRaw w dblk i) :
    ((uninitializedMove cfg false sblk lo (hi - lo) dblk lo >>= fun _ => destroyRange cfg sblk lo (hi - lo)) w).sat
      (fun _ w' => Rows w w' dblk sblk lo hi ∧ (∀ i, lo ≤ i → i < hi → (w'.mem dblk)[i]? = (w.mem sblk)[i]?) ∧
                   ∀ i, lo ≤ i → i < hi → IsRaw w' sblk i)
      (fun e w' => e = .elem ∧ Rows w w' dblk sblk lo hi ∧ (∀ i, lo ≤ i → i < hi → IsRaw w' dblk i) ∧
                   ∀ i, lo ≤ i → i < hi → IsObj w' sblk i) := by
  refine sat_bind (relocate_rows_sat cfg sblk dblk lo hi w hsrc hraw) (fun _ w1 ⟨hr, hdst, hsrc1⟩ => ?_) (fun _ _ h => h)
  refine Res.sat_mono (destroyRows_sat cfg sblk lo hi w1 hsrc1) (fun _ w2 ⟨hc, hr2, hrest2⟩ => ?_) (fun _ _ h => h.elim)
  -- a destination slot is no source slot: the one was raw, the other an object
  have hdisj : ∀ i, lo ≤ i → i < hi → dblk ≠ sblk := fun i h1 h2 hb => not_obj_and_raw (hb ▸ hsrc i h1 h2) (hraw i h1 h2)
  exact ⟨⟨hr.ctl.trans hc, hr.same.trans (hrest2.mono (fun _ _ x => Or.inr x))⟩,
    fun i h1 h2 => (hrest2.ne (hdisj i h1 h2) i).trans (hdst i h1 h2), hr2⟩

/-- `swap_ranges` over the slots [0, n) of two different blocks that are no temporaries, seen from the blocks that are
    no temporaries -/
theorem swapRows_sat (cfg : Cfg) (b1 b2 : Nat) (hb : b1 ≠ b2) (n : Nat) (w : World α) (hl : Ledger w)
    (hc1 : b1 % 2 = 1 ∨ b1 < 5) (hc2 : b2 % 2 = 1 ∨ b2 < 5)
    (h1 : ∀ i, i < n → IsObj w b1 i) (h2 : ∀ i, i < n → IsObj w b2 i) :
    (swapRanges cfg b1 0 b2 0 n w).sat
      (fun _ w' => (Ctl0 w w' ∧ w'.hdr = w.hdr ∧
          ∀ b i, b % 2 = 1 ∨ b < 5 → (b ≠ b1 ∧ b ≠ b2) ∨ n ≤ i → (w'.mem b)[i]? = (w.mem b)[i]?) ∧
          (∀ i, i < n → (w'.mem b1)[i]? = (w.mem b2)[i]?) ∧ (∀ i, i < n → (w'.mem b2)[i]? = (w.mem b1)[i]?))
      (fun e w' => e = .elem ∧ (Ctl0 w w' ∧ w'.hdr = w.hdr ∧
          ∀ b i, b % 2 = 1 ∨ b < 5 → (b ≠ b1 ∧ b ≠ b2) ∨ n ≤ i → (w'.mem b)[i]? = (w.mem b)[i]?) ∧
          (∀ i, i < n → IsObj w' b1 i) ∧ (∀ i, i < n → IsObj w' b2 i)) := by
  have h5 := hl.ntmp_ok.2
  have cls : ∀ b, b % 2 = 1 ∨ b < 5 → b < w.ntmp ∨ b % 2 = 1 := fun b h => by omega
  have frame : ∀ {w' : World α}, SwapFrame w w' (fun b i => (b = b1 ∧ 0 ≤ i ∧ i < 0 + n) ∨ (b = b2 ∧ 0 ≤ i ∧ i < 0 + n)) →
      Ctl0 w w' ∧ w'.hdr = w.hdr ∧ ∀ b i, b % 2 = 1 ∨ b < 5 → (b ≠ b1 ∧ b ≠ b2) ∨ n ≤ i → (w'.mem b)[i]? = (w.mem b)[i]? :=
    fun hf => ⟨hf.ctl, hf.hdr, fun b i hc hx => hf.rest b i (cls b hc) (fun x => by
      rcases hx with hx | hx
      · rcases x with x | x
        · exact hx.1 x.1
        · exact hx.2 x.1
      · omega)⟩
  refine Res.sat_mono (swapRanges_sat cfg b1 b2 hb n 0 0 w hl.ntmp_ok (cls b1 hc1) (cls b2 hc2)
    (fun k hk => by rw [Nat.zero_add]; exact h1 k hk) (fun k hk => by rw [Nat.zero_add]; exact h2 k hk)) ?_ ?_
  · intro _ w' ⟨hf, hx, hy⟩
    simp only [Nat.zero_add] at hx hy
    exact ⟨frame hf, hx, hy⟩
  · intro e w' ⟨he, hf, hx, hy⟩
    simp only [Nat.zero_add] at hx hy
    exact ⟨he, frame hf, hx, hy⟩

end SvModel
