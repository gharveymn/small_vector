/-
Element-wise move assignment, in-place paths (`move_assign_default` / `move_assign_unequal_no_propagate` when the
source's elements fit in the destination's current capacity and the buffer cannot be stolen):
move-assign over the common prefix, then move-construct the rest or destroy the surplus, then set the size.

The destination `c` and the source `o` both change (the source's elements become moved-from).  The outcome is described
through a FICTITIOUS intermediate world `husked w w' b` in which only the source's block has its final contents:
`Basic cfg w (husked …) o` (the source is still a valid container: same header, every slot in [0, size) an object) and
`Basic cfg (husked …) w' c` (relative to it the call is an ordinary in-place change of `c`).  Two applications of
`SysOK.step` then give the system invariant for `w'` without any new system-level machinery.

`mid w w' o no` is the intermediate world when `o`'s size changes as well (`husked` is the case of an unchanged size).
-/
import SvModel.Proofs.MoveAssignSpec
import SvModel.Proofs.SysInv

namespace SvModel
open Gen
variable {α : Type}

def mid (w w' : World α) (o no : Nat) : World α :=
  { w with mem := upd w.mem (w.hdr o).data (w'.mem (w.hdr o).data), hdr := upd w.hdr o { w.hdr o with size := no } }

theorem mid_mem_b (w w' : World α) (o no : Nat) : (mid w w' o no).mem (w.hdr o).data = w'.mem (w.hdr o).data := by simp [mid]
theorem mid_mem_other (w w' : World α) (o no b : Nat) (h : b ≠ (w.hdr o).data) : (mid w w' o no).mem b = w.mem b := by
  simp [mid, upd_other _ _ _ _ h]

theorem mid_basic (cfg : Cfg) {w w' : World α} {o no : Nat} (hvo : VecOK cfg w o) (hl : Ledger w)
    (hlen : (w'.mem (w.hdr o).data).length = (w.mem (w.hdr o).data).length) (hno : no ≤ (w.hdr o).cap)
    (hoobj : ∀ i, i < no → IsObj w' (w.hdr o).data i) (horaw : ∀ i, no ≤ i → i < (w.hdr o).cap → IsRaw w' (w.hdr o).data i) :
    Basic cfg w (mid w w' o no) o := by
  have hmb := mid_mem_b w w' o no
  have hmo := mid_mem_other w w' o no
  have hc1 : Ctl0 w (mid w w' o no) := by
    refine ⟨rfl, rfl, rfl, rfl, ⟨Nat.le_refl _, rfl⟩, fun b _ => ?_⟩
    by_cases hb : b = (w.hdr o).data
    · rw [hb, hmb]; exact hlen
    · rw [hmo b hb]
  obtain ⟨a1, a2, a3⟩ := inplace_ok cfg (w' := mid w w' o no) (n' := no) hvo hl hc1 rfl hno
    (fun i hi' => by unfold IsObj; rw [hmb]; exact hoobj i hi')
    (fun i x y => by unfold IsRaw; rw [hmb]; exact horaw i x y)
    (fun b i hb _ => by rw [hmo b hb])
  exact ⟨a1, a2, rfl, a3⟩

theorem mid_vecOK (cfg : Cfg) {w w' : World α} {c o no : Nat} (hv : VecOK cfg w c) (hco : c ≠ o)
    (hd : (w.hdr o).data ≠ (w.hdr c).data) (hi : (w.hdr o).data ≠ (w.hdr c).inl) : VecOK cfg (mid w w' o no) c :=
  (hv.of_mem_eq (w' := mid w w' o no) (upd_other _ _ _ _ hco) (mid_mem_other _ _ _ _ _ (Ne.symm hi))
    (fun hne => ⟨mid_mem_other _ _ _ _ _ (Ne.symm hd), (hv.heap hne).1, rfl⟩)).1

theorem two_inplace (cfg : Cfg) {w w' : World α} {c o nc no : Nat} (hv : VecOK cfg w c) (hvo : VecOK cfg w o) (hl : Ledger w) (hco : c ≠ o)
    (hd : (w.hdr o).data ≠ (w.hdr c).data) (hi : (w.hdr o).data ≠ (w.hdr c).inl)
    (hc : Ctl0 w w')
    (hh : w'.hdr = upd (upd w.hdr o { w.hdr o with size := no }) c { w.hdr c with size := nc })
    (hnc : nc ≤ (w.hdr c).cap) (hno : no ≤ (w.hdr o).cap)
    (hcobj : ∀ i, i < nc → IsObj w' (w.hdr c).data i) (hcraw : ∀ i, nc ≤ i → i < (w.hdr c).cap → IsRaw w' (w.hdr c).data i)
    (hoobj : ∀ i, i < no → IsObj w' (w.hdr o).data i) (horaw : ∀ i, no ≤ i → i < (w.hdr o).cap → IsRaw w' (w.hdr o).data i)
    (hother : ∀ (b i : Nat), b ≠ (w.hdr c).data → b ≠ (w.hdr o).data → (b % 2 = 1 ∨ b < 5) → (w'.mem b)[i]? = (w.mem b)[i]?) :
    Basic cfg w (mid w w' o no) o ∧ Basic cfg (mid w w' o no) w' c := by
  have hmb := mid_mem_b w w' o no
  have hmo := mid_mem_other w w' o no
  have hb1 : Basic cfg w (mid w w' o no) o :=
    mid_basic cfg hvo hl (hc.len _ (by rcases hvo.data_kind hl with h | h; exact Or.inl h; exact Or.inr (Or.inl (by omega)))) hno hoobj horaw
  refine ⟨hb1, ?_⟩
  have hmc : (mid w w' o no).hdr c = w.hdr c := upd_other _ _ _ _ hco
  have hvh : VecOK cfg (mid w w' o no) c := mid_vecOK cfg hv hco hd hi
  have hc' : Ctl0 (mid w w' o no) w' := by
    refine ⟨hc.owner, hc.live, hc.next, hc.ub, hc.ntmp, fun b hb => ?_⟩
    by_cases hbo : b = (w.hdr o).data
    · rw [hbo, hmb]
    · rw [hmo b hbo]; exact hc.len b hb
  have hh' : w'.hdr = upd (mid w w' o no).hdr c { (mid w w' o no).hdr c with size := nc } := by
    rw [hh, hmc]; rfl
  obtain ⟨h1, h2, h3⟩ := inplace_ok cfg (n' := nc) hvh hb1.led hc' hh' (by rw [hmc]; exact hnc)
    (fun i hi' => by rw [hmc]; exact hcobj i hi')
    (fun i x y => by rw [hmc] at y ⊢; exact hcraw i x y)
    (fun b i hb hcl => by
      rw [hmc] at hb
      by_cases hbo : b = (w.hdr o).data
      · rw [hbo, hmb]
      · rw [hmo b hbo]; exact hother b i hb hbo hcl)
  exact ⟨h1, h2, hc.ub, h3⟩

def husked (w w' : World α) (b : Nat) : World α := { w with mem := upd w.mem b (w'.mem b) }

theorem husked_mem_b (w w' : World α) (b : Nat) : (husked w w' b).mem b = w'.mem b := by simp [husked]
theorem husked_mem_other (w w' : World α) (b b' : Nat) (h : b' ≠ b) : (husked w w' b).mem b' = w.mem b' := by
  simp [husked, upd_other _ _ _ _ h]

theorem husked_eq_mid (w w' : World α) (o : Nat) : husked w w' (w.hdr o).data = mid w w' o (w.hdr o).size := by
  show ({ w with mem := _ } : World α) = { w with mem := _, hdr := upd w.hdr o (w.hdr o) }
  rw [upd_self]

theorem basic_husked (cfg : Cfg) {w w' : World α} {o : Nat} (hvo : VecOK cfg w o) (hl : Ledger w)
    (hlen : (w'.mem (w.hdr o).data).length = (w.mem (w.hdr o).data).length)
    (hobj : ∀ i, i < (w.hdr o).size → IsObj w' (w.hdr o).data i)
    (hrest : ∀ i, (w.hdr o).size ≤ i → (w'.mem (w.hdr o).data)[i]? = (w.mem (w.hdr o).data)[i]?) :
    Basic cfg w (husked w w' (w.hdr o).data) o := by
  rw [husked_eq_mid]
  exact mid_basic cfg hvo hl hlen hvo.size_le hobj (fun i h1 h2 => isRaw_of_eq (hrest i h1) (hvo.raws i h1 h2))

theorem VecOK.husked {cfg : Cfg} {w : World α} {c : Nat} (hv : VecOK cfg w c) (w' : World α) {b : Nat}
    (hd : b ≠ (w.hdr c).data) (hi : b ≠ (w.hdr c).inl) : VecOK cfg (husked w w' b) c :=
  (hv.of_mem_eq (w' := SvModel.husked w w' b) rfl (husked_mem_other _ _ _ _ (Ne.symm hi))
    (fun hne => ⟨husked_mem_other _ _ _ _ (Ne.symm hd), (hv.heap hne).1, rfl⟩)).1

/-- the construction seen from the world in which another block `od` has its present contents -/
theorem BuiltA.husked_other {cfg : Cfg} {w w2 w3 : World α} {c ncap a od : Nat} (hb2 : BuiltA cfg w w2 c ncap a) (hc3 : Ctl w2 w3)
    (hcc : ∀ i, i < (w.hdr c).size → IsObj w3 (w.hdr c).data i)
    (hother : ∀ (b i : Nat), b ≠ w.next → b ≠ od → ¬ (b = (w.hdr c).data ∧ i < (w.hdr c).size) → (w3.mem b)[i]? = (w.mem b)[i]?) :
    BuiltA cfg (husked w w3 od) w3 c ncap a := by
  refine ⟨hc3.hdr.trans hb2.hdr, hc3.live.trans hb2.live, hc3.owner.trans hb2.owner, hc3.next.trans hb2.next, hc3.ntmp.trans hb2.ntmp,
          hc3.ub.trans hb2.ub, (hc3.len _).trans hb2.lenNew, fun b hb => ?_, hcc, fun b i hb hn => ?_⟩
  · by_cases hbo : b = od
    · rw [hbo, husked_mem_b]
    · rw [husked_mem_other _ _ _ _ hbo]; exact (hc3.len b).trans (hb2.lenOld b hb)
  · by_cases hbo : b = od
    · rw [hbo, husked_mem_b]
    · rw [husked_mem_other _ _ _ _ hbo]; exact hother b i hb hbo hn

theorem husked_inplace (cfg : Cfg) {w w' : World α} {c o n' : Nat} (hv : VecOK cfg w c) (hl : Ledger w) (hvo : VecOK cfg w o)
    (hd : (w.hdr o).data ≠ (w.hdr c).data) (hi : (w.hdr o).data ≠ (w.hdr c).inl)
    (hc : Ctl0 w w') (hh : w'.hdr = upd w.hdr c { w.hdr c with size := n' }) (hn : n' ≤ (w.hdr c).cap)
    (hobj : ∀ i, i < n' → IsObj w' (w.hdr c).data i)
    (hraw : ∀ i, n' ≤ i → i < (w.hdr c).cap → IsRaw w' (w.hdr c).data i)
    (hsobj : ∀ i, i < (w.hdr o).size → IsObj w' (w.hdr o).data i)
    (hsrest : ∀ i, (w.hdr o).size ≤ i → (w'.mem (w.hdr o).data)[i]? = (w.mem (w.hdr o).data)[i]?)
    (hother : ∀ (b i : Nat), b ≠ (w.hdr c).data → b ≠ (w.hdr o).data → (w'.mem b)[i]? = (w.mem b)[i]?) :
    Basic cfg w (husked w w' (w.hdr o).data) o ∧ Basic cfg (husked w w' (w.hdr o).data) w' c := by
  rw [husked_eq_mid]
  exact two_inplace cfg hv hvo hl (fun e => hd (by rw [e])) hd hi hc
    (by show w'.hdr = upd (upd w.hdr o (w.hdr o)) c _; rw [upd_self]; exact hh) hn hvo.size_le hobj hraw hsobj
    (fun i h1 h2 => isRaw_of_eq (hsrest i h1) (hvo.raws i h1 h2)) (fun b i h1 h2 _ => hother b i h1 h2)

theorem Ctl.husked {w w' : World α} (hc : Ctl w w') (b : Nat) : Ctl (husked w w' b) w' := by
  refine ⟨hc.hdr, hc.owner, hc.live, hc.next, hc.ntmp, hc.ub, fun x => ?_⟩
  by_cases h : x = b
  · rw [h, husked_mem_b]
  · rw [husked_mem_other _ _ _ _ h]; exact hc.len x

/-- `w2` is `w` after a block has been allocated for `c`; from there (`w3`) only the new block, live slots of `o`'s buffer
    and live slots of `c`'s buffer were written, and those slots hold objects.  Relative to the world in which only `o`'s
    buffer has changed, `o` made a basic step, `c` is untouched and the new block is under construction. -/
theorem husked_built (cfg : Cfg) {w w2 w3 : World α} {c o ncap a : Nat} (hv : VecOK cfg w c) (hl : Ledger w) (hvo : VecOK cfg w o)
    (hd : (w.hdr o).data ≠ (w.hdr c).data) (hi : (w.hdr o).data ≠ (w.hdr c).inl)
    (hb2 : BuiltA cfg w w2 c ncap a) (hc3 : Ctl w2 w3)
    (hoo : ∀ i, i < (w.hdr o).size → IsObj w3 (w.hdr o).data i)
    (hcc : ∀ i, i < (w.hdr c).size → IsObj w3 (w.hdr c).data i)
    (hother : ∀ (b i : Nat), b ≠ w.next → ¬ (b = (w.hdr o).data ∧ i < (w.hdr o).size) → ¬ (b = (w.hdr c).data ∧ i < (w.hdr c).size) →
      (w3.mem b)[i]? = (w.mem b)[i]?) :
    Basic cfg w (husked w w3 (w.hdr o).data) o ∧ VecOK cfg (husked w w3 (w.hdr o).data) c ∧
      BuiltA cfg (husked w w3 (w.hdr o).data) w3 c ncap a := by
  have hon : (w.hdr o).data ≠ w.next := Nat.ne_of_lt (hvo.data_lt_next hl)
  have hlen : ∀ b, b ≠ w.next → (w3.mem b).length = (w.mem b).length := fun b hb => (hc3.len b).trans (hb2.lenOld b hb)
  refine ⟨basic_husked cfg hvo hl (hlen _ hon) hoo
      (fun i hi' => hother _ i hon (fun x => Nat.not_lt_of_le hi' x.2) (fun x => hd x.1)),
    hv.husked w3 hd hi, hb2.husked_other hc3 hcc (fun b i h1 h2 h3 => hother b i h1 (fun x => h2 x.1) h3)⟩

theorem BuiltA.husk {cfg : Cfg} {w w3 : World α} {c ncap a : Nat} (hb : BuiltA cfg w w3 c ncap a) :
    BuiltA cfg (husked w w3 (w.hdr c).data) w3 c ncap a :=
  hb.husked_other (Ctl.refl w3) hb.objs (fun b i h1 _ h3 => hb.other b i h1 h3)

/-- roll-back when live elements of `c`'s own buffer may have been overwritten (by objects): first `c` takes a basic
    step to its present buffer contents, relative to that world releasing the new block changes nothing observable -/
theorem BuiltA.abort_husked {cfg : Cfg} {w w3 : World α} {c ncap a : Nat} (hv : VecOK cfg w c) (hl : Ledger w)
    (hb : BuiltA cfg w w3 c ncap a) (hraw : ∀ i, i < ncap → IsRaw w3 w.next i) :
    Basic cfg w (husked w w3 (w.hdr c).data) c ∧
      ∃ w', deallocate a w.next ncap w3 = .ok () w' ∧ Strong (husked w w3 (w.hdr c).data) w' := by
  have hcn : (w.hdr c).data ≠ w.next := Ne.symm (hv.next_ne hl).1
  have hb1 := basic_husked cfg hv hl (hb.lenOld _ hcn) hb.objs (fun i hi' => hb.other _ i hcn (fun x => by omega))
  exact ⟨hb1, abort_realloc_alloc (w := husked w w3 (w.hdr c).data) hb1.vec hb1.led hb.husk
    (fun i _ => by show (w3.mem (w.hdr c).data)[i]? = ((husked w w3 (w.hdr c).data).mem (w.hdr c).data)[i]?; rw [husked_mem_b]) hraw⟩

/-- The buffers `cd` of the destination and `od` of the source between the stages of an element-wise move assignment,
    relative to the world `w` before it: `cd` has `n` objects, the first `mv` of them the values the source had, then raw
    storage up to `cap`; the `os` source slots are objects, those from `ms` on (and everything beyond) untouched. -/
structure MoveMid (w w' : World α) (cd od n mv ms os cap : Nat) : Prop where
  ctl   : Ctl w w'
  objs  : ∀ i, i < n → IsObj w' cd i
  raws  : ∀ i, n ≤ i → i < cap → IsRaw w' cd i
  vals  : ∀ i, i < mv → (w'.mem cd)[i]? = (w.mem od)[i]?
  sobjs : ∀ i, i < os → IsObj w' od i
  srest : ∀ i, ms ≤ i → (w'.mem od)[i]? = (w.mem od)[i]?
  other : ∀ (b i : Nat), b ≠ cd → b ≠ od → (w'.mem b)[i]? = (w.mem b)[i]?

theorem MoveMid.assign (cfg : Cfg) {w w0 : World α} {cd od n os cap k : Nat} (hm : MoveMid w w0 cd od n 0 0 os cap)
    (hne : od ≠ cd) (hkn : k ≤ n) (hko : k ≤ os) :
    (assignGen cfg cd 0 (srcsMove od 0 k) w0).sat
      (fun _ w1 => MoveMid w w1 cd od n k k os cap) (fun _ w1 => MoveMid w w1 cd od n 0 k os cap) := by
  have hasg := assignGen_move_sat cfg cd od hne k 0 0 w0
    (fun j hj => by rw [Nat.zero_add]; exact hm.sobjs j (Nat.lt_of_lt_of_le hj hko))
    (fun j hj => by rw [Nat.zero_add]; exact hm.objs j (Nat.lt_of_lt_of_le hj hkn))
  simp only [Nat.zero_add] at hasg
  -- both outcomes leave objects in the two prefixes; on return the destination's are the source's values
  have key : ∀ {w1 : World α}, Ctl w0 w1 → (∀ i, i < k → IsObj w1 cd i) → (∀ i, i < k → IsObj w1 od i) →
      (∀ (b i : Nat), ¬ (b = cd ∧ 0 ≤ i ∧ i < k) → ¬ (b = od ∧ 0 ≤ i ∧ i < k) → (w1.mem b)[i]? = (w0.mem b)[i]?) →
      MoveMid w w1 cd od n 0 k os cap := by
    intro w1 hc1 hd1 hs1 hrest1
    obtain ⟨_, rc, _, ro, rb⟩ := rest_split hrest1 hne
    refine ⟨hm.ctl.trans hc1, fun i hi => ?_, fun i h1 h2 => isRaw_of_eq (rc i (Nat.le_trans hkn h1)) (hm.raws i h1 h2),
      fun i hi => absurd hi (Nat.not_lt_zero i), fun i hi => ?_,
      fun i hi => (ro i hi).trans (hm.srest i (Nat.zero_le i)), fun b i h1 h2 => (rb b i h1 h2).trans (hm.other b i h1 h2)⟩
    · by_cases h : i < k
      · exact hd1 i h
      · exact isObj_of_eq (rc i (Nat.le_of_not_lt h)) (hm.objs i hi)
    · by_cases h : i < k
      · exact hs1 i h
      · exact isObj_of_eq (ro i (Nat.le_of_not_lt h)) (hm.sobjs i hi)
  refine Res.sat_mono hasg ?_ (fun _ w1 ⟨_, hc1, hd1, hs1, hrest1⟩ => key hc1 hd1 hs1 hrest1)
  intro _ w1 ⟨hc1, hv1, hh1, hrest1⟩
  have hsrc : ∀ i, i < k → IsObj w0 od i := fun i hi => hm.sobjs i (Nat.lt_of_lt_of_le hi hko)
  have h := key hc1 (fun i hi => isObj_of_eq (hv1 i hi) (hsrc i hi)) (fun i hi => isObj_moved (hh1 i hi) (hsrc i hi)) hrest1
  exact ⟨h.ctl, h.objs, h.raws, fun i hi => (hv1 i hi).trans (hm.srest i (Nat.zero_le i)), h.sobjs, h.srest, h.other⟩

theorem MoveMid.construct (cfg : Cfg) {w w0 : World α} {cd od n os cap : Nat} (hm : MoveMid w w0 cd od n n n os cap)
    (hne : od ≠ cd) (hno : n ≤ os) (hcap : os ≤ cap) :
    (uninitializedMove cfg false od n (os - n) cd n w0).sat
      (fun _ w1 => MoveMid w w1 cd od os os os os cap) (fun _ w1 => MoveMid w w1 cd od n n os os cap) := by
  have hu : n + (os - n) = os := Nat.add_sub_of_le hno
  have idx : ∀ {P : Nat → Prop} {i : Nat}, (∀ j, j < os - n → P (n + j)) → n ≤ i → i < os → P i :=
    fun h h1 h2 => forall_range.mp h _ h1 (by rw [hu]; exact h2)
  refine Res.sat_mono (uninitializedMove_sat cfg false od n (os - n) cd n w0
    (fun j hj => hm.sobjs (n + j) (by omega)) (fun j hj => hm.raws (n + j) (Nat.le_add_right n j) (by omega))) ?_ ?_
  · intro _ w1 hr
    have hrest := hr.rest
    rw [hu] at hrest
    obtain ⟨rcl, rch, rol, roh, rb⟩ := rest_split hrest hne
    refine ⟨hm.ctl.trans hr.ctl, fun i hi => ?_, fun i h1 h2 => isRaw_of_eq (rch i h1) (hm.raws i (Nat.le_trans hno h1) h2),
      fun i hi => ?_, fun i hi => ?_,
      fun i hi => (roh i hi).trans (hm.srest i (Nat.le_trans hno hi)), fun b i h1 h2 => (rb b i h1 h2).trans (hm.other b i h1 h2)⟩
    · by_cases h : i < n
      · exact isObj_of_eq (rcl i h) (hm.objs i h)
      · exact isObj_of_eq (idx (P := fun i => (w1.mem cd)[i]? = (w0.mem od)[i]?) hr.dst (Nat.le_of_not_lt h) hi) (hm.sobjs i hi)
    · by_cases h : i < n
      · exact (rcl i h).trans (hm.vals i h)
      · exact (idx (P := fun i => (w1.mem cd)[i]? = (w0.mem od)[i]?) hr.dst (Nat.le_of_not_lt h) hi).trans (hm.srest i (Nat.le_of_not_lt h))
    · by_cases h : i < n
      · exact isObj_of_eq (rol i h) (hm.sobjs i hi)
      · exact idx (P := fun i => IsObj w1 od i) hr.src (Nat.le_of_not_lt h) hi
  · intro _ w1 ⟨_, hf⟩
    have hrest := hf.rest
    rw [hu] at hrest
    obtain ⟨rcl, rch, rol, roh, rb⟩ := rest_split hrest hne
    refine ⟨hm.ctl.trans hf.ctl, fun i hi => isObj_of_eq (rcl i hi) (hm.objs i hi), fun i h1 h2 => ?_,
      fun i hi => (rcl i hi).trans (hm.vals i hi), fun i hi => ?_,
      fun i hi => (roh i hi).trans (hm.srest i (Nat.le_trans hno hi)), fun b i h1 h2 => (rb b i h1 h2).trans (hm.other b i h1 h2)⟩
    · by_cases h : i < os
      · exact idx (P := fun i => IsRaw w1 cd i) hf.dst h1 h
      · exact isRaw_of_eq (rch i (Nat.le_of_not_lt h)) (hm.raws i h1 h2)
    · by_cases h : i < n
      · exact isObj_of_eq (rol i h) (hm.sobjs i hi)
      · exact idx (P := fun i => IsObj w1 od i) hf.src (Nat.le_of_not_lt h) hi

theorem MoveMid.destroy (cfg : Cfg) {w w0 : World α} {cd od n mv ms os cap k : Nat} (hm : MoveMid w w0 cd od n mv ms os cap)
    (hne : od ≠ cd) (hk : k ≤ n) (hmv : mv ≤ k) :
    (destroyRange cfg cd k (n - k) w0).sat (fun _ w1 => MoveMid w w1 cd od k mv ms os cap) (fun _ _ => False) := by
  have hu : k + (n - k) = n := Nat.add_sub_of_le hk
  have hds := destroyRange_sat cfg cd (n - k) k w0 (fun i h1 h2 => hm.objs i (by rw [hu] at h2; exact h2))
  rw [hu] at hds
  refine Res.sat_mono hds ?_ (fun _ _ h => h)
  intro _ w1 ⟨hc1, hr1, hrest1⟩
  have rcl : ∀ i, i < k → (w1.mem cd)[i]? = (w0.mem cd)[i]? := fun i h => hrest1 cd i (fun x => Nat.not_le_of_lt h x.2.1)
  have rch : ∀ i, n ≤ i → (w1.mem cd)[i]? = (w0.mem cd)[i]? := fun i h => hrest1 cd i (fun x => Nat.not_lt_of_le h x.2.2)
  have ro : ∀ (b i : Nat), b ≠ cd → (w1.mem b)[i]? = (w0.mem b)[i]? := fun b i h => hrest1 b i (fun x => h x.1)
  refine ⟨hm.ctl.trans hc1, fun i hi => isObj_of_eq (rcl i hi) (hm.objs i (Nat.lt_of_lt_of_le hi hk)), fun i h1 h2 => ?_,
    fun i hi => (rcl i (Nat.lt_of_lt_of_le hi hmv)).trans (hm.vals i hi), fun i hi => isObj_of_eq (ro od i hne) (hm.sobjs i hi),
    fun i hi => (ro od i hne).trans (hm.srest i hi), fun b i h1 h2 => (ro b i h1).trans (hm.other b i h1 h2)⟩
  by_cases h : i < n
  · exact hr1 i h1 h
  · exact isRaw_of_eq (rch i (Nat.le_of_not_lt h)) (hm.raws i (Nat.le_of_not_lt h) h2)

theorem MoveMid.basics (cfg : Cfg) {w w1 w' : World α} {c o n mv ms : Nat}
    (hm : MoveMid w w1 (w.hdr c).data (w.hdr o).data n mv ms (w.hdr o).size (w.hdr c).cap)
    (hv : VecOK cfg w c) (hl : Ledger w) (hvo : VecOK cfg w o)
    (hd : (w.hdr o).data ≠ (w.hdr c).data) (hi : (w.hdr o).data ≠ (w.hdr c).inl) (hn : n ≤ (w.hdr c).cap) (hms : ms ≤ (w.hdr o).size)
    (hmem : w'.mem = w1.mem) (hc : Ctl0 w w') (hh : w'.hdr = upd w.hdr c { w.hdr c with size := n }) :
    Basic cfg w (husked w w' (w.hdr o).data) o ∧ Basic cfg (husked w w' (w.hdr o).data) w' c := by
  refine husked_inplace cfg hv hl hvo hd hi hc hh hn ?_ ?_ ?_ ?_ ?_
  · unfold IsObj; rw [hmem]; exact hm.objs
  · unfold IsRaw; rw [hmem]; exact hm.raws
  · unfold IsObj; rw [hmem]; exact hm.sobjs
  · rw [hmem]; exact fun i hi' => hm.srest i (Nat.le_trans hms hi')
  · rw [hmem]; exact hm.other

/-- the in-place element-wise move assignment `c = std::move (o)` (contents fit, no steal), followed by set_size -/
theorem moveAssignInPlace_sat (cfg : Cfg) (c o : Nat) (w : World α)
    (hv : VecOK cfg w c) (hl : Ledger w) (hvo : VecOK cfg w o)
    (hfit : (w.hdr o).size ≤ (w.hdr c).cap)
    (hd : (w.hdr o).data ≠ (w.hdr c).data) (hi : (w.hdr o).data ≠ (w.hdr c).inl) :
    ((moveAssignInPlace cfg c (w.hdr c) (w.hdr o) (decide ((w.hdr c).size < (w.hdr o).size)) >>= fun _ => setSize c (w.hdr o).size) w).sat
      (fun _ w' => Basic cfg w (husked w w' (w.hdr o).data) o ∧ Basic cfg (husked w w' (w.hdr o).data) w' c ∧
          w'.hdr c = { w.hdr c with size := (w.hdr o).size } ∧
          (∀ k, k < (w.hdr o).size → (w'.mem (w.hdr c).data)[k]? = (w.mem (w.hdr o).data)[k]?) ∧
          w'.live = w.live ∧ w'.next = w.next)
      (fun _ w' => Basic cfg w (husked w w' (w.hdr o).data) o ∧ Basic cfg (husked w w' (w.hdr o).data) w' c ∧
          w'.hdr c = w.hdr c ∧ w'.live = w.live ∧ w'.next = w.next) := by
  have h0 : MoveMid w w (w.hdr c).data (w.hdr o).data (w.hdr c).size 0 0 (w.hdr o).size (w.hdr c).cap :=
    ⟨Ctl.refl w, hv.objs, hv.raws, fun i hi' => absurd hi' (Nat.not_lt_zero i), hvo.objs, fun _ _ => rfl, fun _ _ _ _ => rfl⟩
  have failed : ∀ {w' : World α} {mv ms : Nat},
      MoveMid w w' (w.hdr c).data (w.hdr o).data (w.hdr c).size mv ms (w.hdr o).size (w.hdr c).cap → ms ≤ (w.hdr o).size →
      Basic cfg w (husked w w' (w.hdr o).data) o ∧ Basic cfg (husked w w' (w.hdr o).data) w' c ∧
        w'.hdr c = w.hdr c ∧ w'.live = w.live ∧ w'.next = w.next := by
    intro w' mv ms hm hms
    obtain ⟨b1, b2⟩ := hm.basics cfg hv hl hvo hd hi hv.size_le hms rfl hm.ctl.to0
      (by rw [hm.ctl.hdr]; exact (upd_self w.hdr c).symm)
    exact ⟨b1, b2, by rw [hm.ctl.hdr], hm.ctl.live, hm.ctl.next⟩
  have done : ∀ {w2 : World α},
      MoveMid w w2 (w.hdr c).data (w.hdr o).data (w.hdr o).size (w.hdr o).size (w.hdr o).size (w.hdr o).size (w.hdr c).cap →
      (setSize c (w.hdr o).size w2).sat
        (fun _ w' => Basic cfg w (husked w w' (w.hdr o).data) o ∧ Basic cfg (husked w w' (w.hdr o).data) w' c ∧
          w'.hdr c = { w.hdr c with size := (w.hdr o).size } ∧
          (∀ k, k < (w.hdr o).size → (w'.mem (w.hdr c).data)[k]? = (w.mem (w.hdr o).data)[k]?) ∧
          w'.live = w.live ∧ w'.next = w.next)
        (fun _ w' => Basic cfg w (husked w w' (w.hdr o).data) o ∧ Basic cfg (husked w w' (w.hdr o).data) w' c ∧
          w'.hdr c = w.hdr c ∧ w'.live = w.live ∧ w'.next = w.next) := by
    intro w2 hm
    rw [setSize_run]
    obtain ⟨b1, b2⟩ := hm.basics (w' := { w2 with hdr := upd w2.hdr c { w2.hdr c with size := (w.hdr o).size } }) cfg hv hl hvo hd hi
      hfit (Nat.le_refl _) rfl (hm.ctl.to0.with_hdr _) (by rw [hm.ctl.hdr])
    exact ⟨b1, b2, by show upd w2.hdr c _ c = _; rw [upd_same, hm.ctl.hdr], hm.vals, hm.ctl.live, hm.ctl.next⟩
  unfold moveAssignInPlace
  by_cases hless : (w.hdr c).size < (w.hdr o).size
  ·
    simp only [hless, decide_true, if_true]
    rw [bind_assoc_run]
    refine sat_bind (h0.assign cfg hd (Nat.le_refl _) (Nat.le_of_lt hless)) (fun _ w1 h1 => ?_)
      (fun _ w1 h1 => failed h1 (Nat.le_of_lt hless))
    exact sat_bind (h1.construct cfg hd (Nat.le_of_lt hless) hfit) (fun _ w2 h2 => done h2) (fun _ w2 h2 => failed h2 (Nat.le_refl _))
  ·
    have hle : (w.hdr o).size ≤ (w.hdr c).size := Nat.le_of_not_lt hless
    simp only [hless, decide_false, Bool.false_eq_true, if_false]
    rw [bind_assoc_run]
    refine sat_bind (h0.assign cfg hd hle (Nat.le_refl _)) (fun _ w1 h1 => ?_) (fun _ w1 h1 => failed h1 (Nat.le_refl _))
    exact sat_bind (h1.destroy cfg hd hle (Nat.le_refl _)) (fun _ w2 h2 => done h2) (fun _ _ h => h.elim)

end SvModel
