-- Root of the `SvModel` library.
import SvModel.Gen.Growth
import SvModel.Gen.Guards
import SvModel.Gen.Policy
import SvModel.Gen.Compare
import SvModel.Gen.Layout
import SvModel.Gen.NoexceptFlags
import SvModel.Spec.L0Compare
import SvModel.Properties.C14
import SvModel.Properties.C16
import SvModel.Spec.L0
import SvModel.Api
import SvModel.Proofs.Examples
import SvModel.Properties.Core
import SvModel.Properties.C19
import SvModel.Properties.C19
import SvModel.Properties.C18
import SvModel.Proofs.InputRange
import SvModel.Properties.C15
import SvModel.Properties.C17
import SvModel.Properties.C13
import SvModel.Proofs.GuardEqs
import SvModel.Properties.C12
import SvModel.Properties.C20
import SvModel.Properties.C08
import SvModel.Properties.C07
import SvModel.Properties.C09
import SvModel.Properties.History
import SvModel.Properties.InsertProps
import SvModel.Properties.AssignProps
import SvModel.Properties.CtorProps
import SvModel.Proofs.SysInv
import SvModel.Properties.System
import SvModel.Gen.MemcpyTable
import SvModel.Spec.Convert
import SvModel.Properties.C14Uses
import SvModel.Proofs.Steal
import SvModel.Properties.C09Sys
import SvModel.Proofs.CopyAssign
import SvModel.Proofs.MoveCtor
import SvModel.Proofs.MoveCtorSys
import SvModel.Proofs.CtorInputSys
import SvModel.Proofs.AllocKeptAppend
import SvModel.Proofs.MoveAssignSpec
import SvModel.Proofs.MoveAssign
import SvModel.Proofs.MoveAssignSys
import SvModel.Proofs.SwapSpec
import SvModel.Proofs.Swap
import SvModel.Proofs.SysStep2
import SvModel.Proofs.Handover
import SvModel.Proofs.SwapSys
import SvModel.Properties.SwapProps
import SvModel.Proofs.MoveCtorAll
import SvModel.Proofs.ToInline
import SvModel.Proofs.MoveAssignRealloc
import SvModel.Proofs.MoveAssignToInline
import SvModel.Proofs.MoveAssignAll
import SvModel.Proofs.CopyAssignProp
import SvModel.Proofs.SwapUnequal
import SvModel.Proofs.SwapAll
import SvModel.Proofs.InputAssign
import SvModel.Proofs.AppendOther
import SvModel.Properties.AppendOtherProps
import SvModel.Proofs.GrowCalls
import SvModel.Proofs.AppendMove
import SvModel.Proofs.AppendOtherMove
import SvModel.Proofs.InputMid
import SvModel.Proofs.AllocCount
import SvModel.Properties.C10Allocs
import SvModel.Properties.Bridge
import SvModel.Properties.ApiSys
import SvModel.Properties.C14L2
import SvModel.Proofs.CtorCount
import SvModel.Properties.C04Fits
import SvModel.Properties.NoOps
import SvModel.Proofs.NoThrowCond
import SvModel.Properties.Access
